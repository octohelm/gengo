import Gengo.Model.Order
import Gengo.Props.Order
import Gengo.Props.Assoc
import Gengo.Props.Index
import Gengo.Model.Camel
import Gengo.Props.C19
import Gengo.Model.Template
import Gengo.Props.C09
import Gengo.Props.C09c
import Gengo.Model.Sprintf
import Gengo.Props.C09b
import Gengo.Model.Tags
import Gengo.Props.C06a
import Gengo.Props.C12a
import Gengo.Model.Tracker
import Gengo.Props.C03a
import Gengo.Props.Pigeon
import Gengo.Props.C03b
import Gengo.Props.C03c
import Gengo.Model.LocalName
import Gengo.Model.Register
import Gengo.Props.C13b
import Gengo.Model.TypeRef
import Gengo.Props.C15
import Gengo.Model.SumFile
import Gengo.Props.C08a
import Gengo.Model.Pipeline
import Gengo.Props.Pipe
import Gengo.Props.Pipe2
import Gengo.Props.Pipe3
import Gengo.Props.Pipe4
import Gengo.Model.Assemble
import Gengo.Props.C01a
import Gengo.Model.Resolver
import Gengo.Props.C14a
import Gengo.Props.C14b
import Gengo.Model.TypeLit
import Gengo.Props.C11a
import Gengo.Model.Layout
import Gengo.Props.C12b
import Gengo.Model.Dumper
import Gengo.Props.C10lit
import Gengo.Props.C10a
import Gengo.Props.C10b
import Gengo.Model.Eval
import Gengo.Props.C10c
import Gengo.Props.C04
import Gengo.Props.C08b
import Gengo.Props.C08c
import Gengo.Props.C08d
import Gengo.Props.C08e
import Gengo.Model.DeepCopy
import Gengo.Model.Heap
import Gengo.Model.Inflect
import Gengo.Gen.InflectTables
import Gengo.Model.Loader
import Gengo.Model.Partial
import Gengo.Model.RuntimeDoc
import Gengo.Props.C03d
import Gengo.Props.C04b
import Gengo.Props.C04c
import Gengo.Props.C04d
import Gengo.Props.C05
import Gengo.Props.C06b
import Gengo.Props.C09d
import Gengo.Props.C09e
import Gengo.Props.C09f
import Gengo.Props.C10d
import Gengo.Props.C10perm
import Gengo.Props.C11b
import Gengo.Props.C13a
import Gengo.Props.C13c
import Gengo.Props.C13d
import Gengo.Props.C14c
import Gengo.Props.C14d
import Gengo.Props.C14e
import Gengo.Props.C14f
import Gengo.Props.C15b
import Gengo.Props.C15c
import Gengo.Props.C16a
import Gengo.Props.C16b
import Gengo.Props.C17a
import Gengo.Props.C17b
import Gengo.Props.C17c
import Gengo.Props.C17d
import Gengo.Props.C17e
import Gengo.Props.C18a
import Gengo.Props.C18b
import Gengo.Props.C19b
import Gengo.Props.C20a
import Gengo.Props.C20b
import Gengo.Props.C20c
import Gengo.Props.Pipe5
import Gengo.Props.Small
import Gengo.Props.StdFacts
import Gengo.Gen.StdList
import Gengo.Gen.Consts
import Gengo.Props.C13e
import Gengo.Model.GoRt
import Gengo.Gen.Code
import Gengo.Props.TrC12
import Gengo.Props.TrC06
import Gengo.Props.TrC15
import Gengo.Props.TrC08
import Gengo.Props.TrC19
import Gengo.Props.TrC01
import Gengo.Props.TrC03
import Gengo.Props.TrC08b
import Gengo.Props.TrC09
import Gengo.Props.TrC20
import Gengo.Props.TrC19b
import Gengo.Props.TrC16
import Gengo.Props.TrC03b
import Gengo.Props.TrC13
import Gengo.Props.C04e
import Gengo.Props.TrC04
import Gengo.Props.TrC03c
import Gengo.Props.TrC09b
import Gengo.Props.GoRtLemmas
import Gengo.Props.TrCodeC12
import Gengo.Props.TrCodeC06
import Gengo.Props.TrCodeC15
import Gengo.Props.TrCodeC01
import Gengo.Props.TrIndex
import Gengo.Props.TrC15b
import Gengo.Props.TrCodeC15b
import Gengo.Props.TrCodeC08
import Gengo.Props.TrC15c
import Gengo.Props.TrC08c
import Gengo.Props.Local
import Gengo.Props.C14g
import Gengo.Props.C14h
import Gengo.Props.C14i
import Gengo.Props.C16c

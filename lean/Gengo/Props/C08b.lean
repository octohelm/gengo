import Gengo.Model.Pipeline
namespace Gengo.Pipeline

/-- `Sum(path)` is `""` for a missing entry, so against a non-empty hash comparing it is comparing the entry -/
theorem getD_nil_bne (o : Option Str) {h : Str} (hh : h ≠ []) : (o.getD [] != h) = (o != some h) := by
  cases o with
  | none => exact bne_iff_ne.mpr hh.symm
  | some v => rfl

/-- C08 `skip_sound` (repaired decision): a package is skipped as cached only if Force is off,
    a sum file was loaded, it has an entry for the package, and that entry equals the hash of the
    package's current directory. -/
theorem skip_sound (a : Args) (hfix : a.emptyHashChanged = true) (prev : Option (List (Str × Str))) (p : Pkg)
    (h : pkgChanged a prev p = false) :
    a.force = false ∧ ∃ m, prev = some m ∧ m.lookup p.path = some p.hash := by
  simp only [pkgChanged, hfix, Bool.true_and, Bool.or_eq_false_iff, List.isEmpty_eq_false_iff] at h
  obtain ⟨⟨hf, hne⟩, hm⟩ := h
  cases prev with
  | none => cases hm
  | some m =>
    simp only [getD_nil_bne _ hne, bne_eq_false_iff_eq] at hm
    exact ⟨hf, m, rfl, hm⟩

/-- C08 `regen_on`: Force, a missing/unreadable sum file or a missing entry each force regeneration -/
theorem regen_on_force (a : Args) (prev) (p : Pkg) (h : a.force = true) : pkgChanged a prev p = true := by
  simp [pkgChanged, h]
theorem regen_on_no_sum (a : Args) (p : Pkg) : pkgChanged a none p = true := by
  simp [pkgChanged]
theorem regen_on_missing_entry (a : Args) (hfix : a.emptyHashChanged = true) (m : List (Str × Str)) (p : Pkg)
    (h : m.lookup p.path = none) : pkgChanged a (some m) p = true := by
  unfold pkgChanged
  simp only [hfix, Bool.true_and, h, Option.getD_none]
  cases p.hash <;> simp

/-- pinned decision (F17): with an empty current hash a *missing* entry counts as "unchanged" -/
example :
    let a : Args := { globals := [], base := [], all := true, force := false, emptyHashChanged := false }
    let p : Pkg := { path := ['p'], direct := true, dir := ['d'], hash := [], goFiles := [], pkgTags := [], types := [] }
    pkgChanged a (some []) p = false := by decide

#print axioms skip_sound
end Gengo.Pipeline

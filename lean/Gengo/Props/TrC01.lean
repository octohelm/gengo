import Gengo.Gen.Code.C01
import Gengo.Model.Assemble
import Gengo.Props.GoRtLemmas
/-!
C01 / C03 / C07, tie by translation: `Gengo.Code.writeImports` and `Gengo.Code.fileName`, regenerated by `go2lean` from
`writeImports` and `(*genfile).Filename` in pkg/gengo/genfile.go on every run, are the assembly model's `importBlock`
and `fileName` (about which `Props/C01a` proves `importBlock_lines`, `importBlock_perm`, `importLine_shape`,
`fileName_shape`).  The format strings are compiled into the translated code, the model takes its pieces from the
regenerated `Gengo.Gen.Consts`: the theorems also say that the two extractions agree.
-/
namespace Gengo.TrC01
open Gengo Gengo.Go Gengo.Code Gengo.Assemble

theorem fileName_eq (base gen : Str) : Code.fileName base gen = pure (Assemble.fileName base gen) := by
  simp [Code.fileName, Assemble.fileName, Gengo.Gen.fileNameParts]

theorem keys_loop (m : List (Str × Str)) (acc : List Str) :
    writeImports.loop1 m acc = pure (acc ++ m.map (·.1)) := by
  induction m generalizing acc with
  | nil => simp [writeImports.loop1]
  | cons kv rest ih => simp [writeImports.loop1, ih]

theorem lines_loop (m : List (Str × Str)) (ks : List Str) (w : Str) :
    writeImports.loop2 m ks w = pure (w ++ (ks.map fun k => importLine (k, Go.mapGet m k [])).flatten) := by
  induction ks generalizing w with
  | nil => simp [writeImports.loop2]
  | cons k rest ih =>
    have step : writeImports.loop2 m (k :: rest) w
        = writeImports.loop2 m rest (w ++ importLine (k, Go.mapGet m k [])) := rfl
    simp [step, ih]

/-- the translated `writeImports` appends the model's import block: nothing for an empty table, otherwise `import (`,
    one line per binding sorted by path, `)` -/
theorem writeImports_eq (w : Str) (m : List (Str × Str)) (hd : (m.map (·.1)).Nodup) :
    Code.writeImports w m = pure (w ++ Assemble.importBlock m) := by
  unfold Code.writeImports Assemble.importBlock
  simp only [keys_loop, lines_loop, List.nil_append, pure_bind, GoRtLemmas.sortedKeys_mapGet m hd]
  cases m <;> simp [Go.len, GoRtLemmas.length_sortStrs, Gengo.Gen.importOpen, Gengo.Gen.importClose]

end Gengo.TrC01

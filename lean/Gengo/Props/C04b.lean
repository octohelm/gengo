import Gengo.Props.C04
import Gengo.Props.C06a
namespace Gengo.Pipeline
open Gengo.Tags

/-- C04, type table: the order in which the name → type table is presented does not matter -/
theorem runGen_types_perm (a : Args) (p : Pkg) (g : Gen) {ts₂ : List TypeObj} (h : p.types.Perm ts₂)
    (hd : ∀ x ∈ p.types, ∀ y ∈ p.types, x.name = y.name → x = y) :
    runGen a { p with types := ts₂ } g = runGen a p g := by
  refine runGen_congr rfl fun s => ?_
  rw [← sortedTypes_perm h hd]
  simpa only [List.map_id] using
    dispatch_congr (p := p) (q := { p with types := ts₂ }) (sh := id) rfl
      fun t _ => ⟨rfl, rfl, rfl, fun _ _ _ => rfl⟩

theorem merge3_perm {g₁ g₂ p₁ p₂ d₁ d₂ : TagMap} (hg : g₁.Perm g₂) (hp : p₁.Perm p₂) (hd : d₁.Perm d₂)
    (dp : DistinctKeys p₁) (dd : DistinctKeys d₁) :
    (merge3 g₁ p₁ d₁).Perm (merge3 g₂ p₂ d₂) := by
  unfold merge3
  have e1 : ∀ k, d₁.lookup k = d₂.lookup k := Assoc.lookup_perm hd dd
  have e2 : ∀ k, p₁.lookup k = p₂.lookup k := Assoc.lookup_perm hp dp
  refine (hd.append ?_).append ?_
  · simp only [e1]; exact hp.filter _
  · simp only [e1, e2]; exact hg.filter _

theorem merge3_distinct {g p d : TagMap} (dg : DistinctKeys g) (dp : DistinctKeys p) (dd : DistinctKeys d) :
    DistinctKeys (merge3 g p d) := by
  unfold DistinctKeys merge3 at *
  simp only [List.map_append]
  rw [List.nodup_append, List.nodup_append]
  refine ⟨⟨dd, (List.filter_sublist.map _).nodup dp, ?_⟩, (List.filter_sublist.map _).nodup dg, ?_⟩
  -- a key that passed a filter is, by the filter's test, not a key of the maps in front
  · rintro k hk _ hb rfl
    obtain ⟨kv, hkv, rfl⟩ := List.mem_map.mp hb
    exact Assoc.lookup_isNone.mp (List.mem_filter.mp hkv).2 hk
  · rintro k hk _ hb rfl
    obtain ⟨kv, hkv, rfl⟩ := List.mem_map.mp hb
    have hnone := Bool.and_eq_true_iff.mp (List.mem_filter.mp hkv).2
    rcases List.mem_append.mp hk with hk | hk
    · exact Assoc.lookup_isNone.mp hnone.1 hk
    · exact Assoc.lookup_isNone.mp hnone.2 ((List.filter_sublist.map _).subset hk)

/-- C04 for the dispatch decision: whether and how `doGenerate` calls a generator for a table
    entry does not depend on the iteration order of any of the three tag maps. -/
theorem handler_perm (a₁ a₂ : Args) (p₁ p₂ : Pkg) (g : Gen) (t₁ t₂ : TypeObj)
    (hk : t₁.kind = t₂.kind)
    (hg : a₁.globals.Perm a₂.globals) (hp : p₁.pkgTags.Perm p₂.pkgTags) (ht : t₁.tags.Perm t₂.tags)
    (dg : DistinctKeys a₁.globals) (dp : DistinctKeys p₁.pkgTags) (dt : DistinctKeys t₁.tags) :
    handler a₁ p₁ g t₁ = handler a₂ p₂ g t₂ := by
  unfold handler
  rw [enabled_perm g.name (merge3_perm hg hp ht dp dt) (merge3_distinct dg dp dt), hk]

#print axioms handler_perm
#print axioms runGen_types_perm
end Gengo.Pipeline

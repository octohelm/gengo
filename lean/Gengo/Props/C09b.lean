import Gengo.Model.Sprintf
namespace Gengo.Sprintf

def one : Arg := ⟨some ['1'], some ['i','n','t']⟩

/-- pinned code (F6): `%%` is not a percent sign -/
example : sprintf false "100%%".toList [] = none := by
  simp only [String.reduceToList]; decide
example : sprintf false "a%%b".toList [] = none := by
  simp only [String.reduceToList]; decide
example : sprintf false "%%v".toList [one] = some "%1".toList := by
  simp only [String.reduceToList]; decide
/-- repaired code -/
example : sprintf true "100%%".toList [] = some "100%".toList := by
  simp only [String.reduceToList]; decide
example : sprintf true "a%%b %v:%T".toList [one, one] = some "a%b 1:int".toList := by
  simp only [String.reduceToList]; decide
example : sprintf true "%v".toList [] = none := by
  simp only [String.reduceToList]; decide
example : sprintf true "%d".toList [one] = none := by
  simp only [String.reduceToList]; decide
example : sprintf true "x%".toList [] = none := by
  simp only [String.reduceToList]; decide

/-- text without `%` is verbatim (both versions) -/
theorem scan_literal (fixed : Bool) (l : Str) (args : List Arg) (h : '%' ∉ l) :
    ∀ fuel, l.length < fuel → scan fixed fuel l args = some l := by
  intro fuel
  induction fuel generalizing l with
  | zero => intro hf; omega
  | succ k ih =>
    intro hf
    cases l with
    | nil => rfl
    | cons c cs =>
      simp only [List.mem_cons, not_or] at h
      simp [scan, Ne.symm h.1, ih cs h.2 (by simpa using hf)]

example : comment "a\n\nb".toList = "// a\n// \n// b".toList := by
  simp only [String.reduceToList]; decide
example : directive "embed".toList ["doc/b.md".toList, []] = "//go:embed doc/b.md".toList := by
  simp only [String.reduceToList]; decide

end Gengo.Sprintf

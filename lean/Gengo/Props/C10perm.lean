import Gengo.Model.Eval
import Gengo.Props.Order
import Gengo.Props.Assoc
namespace Gengo.Eval
open Gengo.Dumper

/-! Map literals are order-free: `evalEntries` is a `mapM` (`mapOpt`), and its result in canonical order does not depend
on the order in which key-distinct entries are listed. -/

/-- `mapM` in `Option`, spelled out -/
def mapOpt {α β : Type} (g : α → Option β) : List α → Option (List β)
  | [] => some []
  | a :: l =>
    match g a, mapOpt g l with
    | some b, some bs => some (b :: bs)
    | _, _ => none

theorem mapOpt_eq {α β : Type} (g : α → Option β) (l : List α) :
    mapOpt g l = if l.all (fun a => (g a).isSome) then some (l.filterMap g) else none := by
  induction l with
  | nil => rfl
  | cons a l ih =>
    rw [mapOpt, ih, List.all_cons, List.filterMap_cons]
    cases g a <;> cases l.all (fun a => (g a).isSome) <;> rfl

theorem mapOpt_perm {α β : Type} (g : α → Option β) {l l' : List α} (h : l.Perm l') :
    ∀ xs, mapOpt g l = some xs → ∃ ys, mapOpt g l' = some ys ∧ xs.Perm ys := by
  intro xs hxs
  rw [mapOpt_eq] at hxs ⊢
  rw [← h.all_eq]
  split at hxs
  case isTrue hall =>
    cases hxs
    exact ⟨_, if_pos hall, h.filterMap g⟩
  case isFalse => cases hxs

/-- what one entry of a map literal means -/
def entryOf (k v : Ty) : Option Str × Expr → Option (SV × SV)
  | (some key, e) =>
    (match k with
     | .scalar _ _ => if key.isEmpty then none else (eval e v).map fun x => (.scalar key, x)
     | _ => none)
  | (none, _) => none

theorem evalEntries_eq_mapOpt (k v : Ty) : ∀ l, evalEntries k v l = mapOpt (entryOf k v) l := by
  intro l
  induction l with
  | nil => rw [evalEntries]; rfl
  | cons x l ih =>
    obtain ⟨_ | key, e⟩ := x
    · rw [evalEntries]; rfl
    · cases k with
      | scalar t z =>
        rw [evalEntries, mapOpt, entryOf, ih]
        cases key.isEmpty
        · cases eval e v <;> cases mapOpt (entryOf (.scalar t z) v) l <;> rfl
        · rfl
      | _ => rw [evalEntries.eq_def]; rfl

theorem entryOf_key {k v : Ty} {x : Option Str × Expr} {y : SV × SV} (h : entryOf k v x = some y) :
    keyOf y = x.1.getD [] := by
  revert h
  -- `entryOf` answers only for a non-empty key text at a scalar key type
  fun_cases entryOf k v x with
  | case2 key e =>
    intro h
    obtain ⟨_, _, rfl⟩ := Option.map_eq_some_iff.mp h
    rfl
  | case1 | case3 | case4 => nofun

/-- the keys of the evaluated entries are the key texts of the literal's entries, in order -/
theorem mapOpt_keys (k v : Ty) : ∀ (l : List (Option Str × Expr)) xs, mapOpt (entryOf k v) l = some xs →
    xs.map keyOf = l.map fun x => x.1.getD [] := by
  intro l
  fun_induction mapOpt (entryOf k v) l with
  | case1 => intro xs h; cases h; rfl
  | case2 x l y ys hys hy ih =>
    intro xs h
    cases h
    rw [List.map_cons, List.map_cons, ih ys hys, entryOf_key hy]
  | case3 => nofun

/-- a map literal means the same map in whatever order it lists its (key-distinct) entries -/
theorem evalEntries_canon_perm (k v : Ty) {l l' : List (Option Str × Expr)} (h : l.Perm l')
    (hnd : (l.map fun x => x.1.getD []).Nodup) :
    (evalEntries k v l').map canon = (evalEntries k v l).map canon := by
  rw [evalEntries_eq_mapOpt, evalEntries_eq_mapOpt, mapOpt_eq, mapOpt_eq, h.all_eq]
  split
  case isTrue hall =>
    -- both lists evaluate; the results are permutations of each other, with the keys of `l`
    have hk := mapOpt_keys k v l _ ((mapOpt_eq _ l).trans (if_pos (h.all_eq ▸ hall)))
    exact congrArg some (sortBy_perm keyOf (h.filterMap _) (Assoc.inj_of_nodup_map keyOf _ (hk ▸ hnd))).symm
  case isFalse => rfl

/-- the form in which the printer meets this: a map literal that lists key-distinct entries sorted by key text
    means the map (in canonical form) that the entries mean in the order they came in -/
theorem eval_sorted_map {ty : Str} {k v : Ty} {l : List (Str × Expr)} (hnd : (l.map (·.1)).Nodup) :
    eval (.comp ty ((sortBy (·.1) l).map fun kv => (some kv.1, kv.2))) (.map ty k v) =
      (evalEntries k v (l.map fun kv => (some kv.1, kv.2))).map fun xs => .map (canon xs) := by
  have hc := evalEntries_canon_perm k v ((perm_sortBy (·.1) l).map fun kv => ((some kv.1 : Option Str), kv.2)).symm
    (by rw [List.map_map]; exact hnd)
  rw [eval, if_pos rfl]
  simpa [Option.map_map, Function.comp_def] using congrArg (Option.map SV.map) hc

end Gengo.Eval

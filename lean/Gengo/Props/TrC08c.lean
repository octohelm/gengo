import Gengo.Gen.Code.C08
import Gengo.Model.SumFile
import Gengo.Props.GoRtLemmas
import Gengo.Props.TrC08
import Gengo.Props.C08d
/-!
C08, tie by translation: `Gengo.Code.sumLoad`, regenerated by `go2lean` from `sumfile.Load` on every run (the file's
content as a parameter: `none` when it cannot be read), builds the map whose lookup is the hand-written model's
`SumFile.loadLookup` — later lines override earlier ones, lines with fewer than two fields are skipped.  With
`sumBytes_eq` and `roundtrip` (Props/C08d): what the translated `Bytes` writes, the translated `Load` reads back.
-/
namespace Gengo.TrC08c
open Gengo Gengo.Go Gengo.Code Gengo.SumFile

theorem isSpace_eq (c : Char) : Go.isSpace c = SumFile.isSpace c := rfl

theorem fieldsAux_eq (s cur : Str) : Go.bytesFieldsAux s cur = SumFile.fieldsAux s cur := by
  induction s generalizing cur with
  | nil => rfl
  | cons c cs ih => simp only [Go.bytesFieldsAux, SumFile.fieldsAux, isSpace_eq, ih]

theorem fields_eq (s : Str) : Go.bytesFields s = SumFile.fields s := fieldsAux_eq s []

theorem linesAux_eq (s cur : Str) : Go.bytesLinesAux s cur = SumFile.linesAux s cur := by
  induction s generalizing cur with
  | nil => rfl
  | cons c cs ih => simp only [Go.bytesLinesAux, SumFile.linesAux, ih]

theorem lines_eq (s : Str) : Go.bytesLines s = SumFile.lines s := linesAux_eq s []

def entryOf (l : Str) : Option (Str × Str) :=
  match SumFile.fields l with
  | k :: v :: _ => some (k, v)
  | _ => none

/-- the loop of `Load` is a run of assignments, one for every line with at least two fields -/
theorem load_loop_eq (rf : Option Str) (ls : List Str) (d : Str) (m : List (Str × Str)) :
    sumLoad.loop1 rf ls (d, m) = pure (d, (ls.filterMap entryOf).foldl (fun m e => Go.mapSet m e.1 e.2) m) := by
  induction ls generalizing m with
  | nil => rfl
  | cons l rest ih =>
    rw [sumLoad.loop1, fields_eq, List.filterMap_cons, entryOf]
    rcases SumFile.fields l with _ | ⟨a, _ | ⟨b, r⟩⟩
    · exact ih m
    · exact ih m
    · have h2 : Go.len (a :: b :: r) ≥ 2 := by simp [Go.len]; omega
      rw [if_pos (decide_eq_true h2)]
      exact ih _

theorem load_loop (rf : Option Str) (ls : List Str) (d : Str) (m : List (Str × Str)) :
    ∃ m', sumLoad.loop1 rf ls (d, m) = pure (d, m') ∧
      ∀ k, m'.lookup k = (((ls.filterMap entryOf).reverse.lookup k) <|> m.lookup k) :=
  ⟨_, load_loop_eq rf ls d m, fun k => by simp [GoRtLemmas.lookup_foldl_mapSet, List.lookup_append]⟩

theorem sumLoad_some (data root : Str) :
    Code.sumLoad (some data) root
      = pure (some (root, (loadEntries data).foldl (fun m e => Go.mapSet m e.1 e.2) [])) := by
  simp only [Code.sumLoad, load_loop_eq, lines_eq, pure_bind]
  rfl

/-- the translated `Load` of a file that can be read: the map's lookup is the model's `loadLookup` -/
theorem sumLoad_eq (data root : Str) :
    ∃ m, Code.sumLoad (some data) root = pure (some (root, m)) ∧ ∀ k, m.lookup k = loadLookup data k :=
  ⟨_, sumLoad_some data root, fun k => by rw [GoRtLemmas.lookup_foldl_mapSet, List.append_nil, loadLookup]⟩

theorem sumLoad_unreadable (root : Str) : Code.sumLoad none root = pure none := by simp [Code.sumLoad]

/-- C08 file format, of the code as it stands: what the translated `Bytes` writes for a map with clean, distinct keys
    the translated `Load` reads back to the same lookup -/
theorem code_save_load (m : List (Str × Str)) (hd : Distinct m) (h : ∀ e ∈ m, clean e.1 ∧ clean e.2) (root : Str) :
    ∃ b m', Code.sumBytes m = .ok b ∧ Code.sumLoad (some b) root = .ok (some (root, m')) ∧ ∀ k, m'.lookup k = m.lookup k := by
  obtain ⟨m', h1, h2⟩ := sumLoad_eq (SumFile.bytes m) root
  exact ⟨_, m', TrC08.sumBytes_eq m hd, h1, fun k => by rw [h2 k, roundtrip m hd h k]⟩

end Gengo.TrC08c

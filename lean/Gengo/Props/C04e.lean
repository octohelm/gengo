import Gengo.Props.C04c
namespace Gengo.Pipeline

/-! C04: the generators are a set — what reaches the write phase does not depend on the order they are handed over in.

`gather` runs the generators of a package one after the other, each on a context of its own; what it hands to the write
phase is, for every generator that rendered something, the pair (generator name, text).  The write phase visits that
set in whatever order `sync.Map.Range` happens to produce (`order` in `pkgExecute`, about which every theorem of C04
is stated for all orders).  So: permute the generators and the *set* of pairs stays the same, and a run fails for one
order exactly if it fails for the other (the generator it fails in first may be another one). -/

/-- what generator `g` contributes when it succeeds -/
def outOf (a : Args) (p : Pkg) (g : Gen) : Option (Str × Str) :=
  match runGen a p g with
  | .ok (some w) => some w
  | _ => none

def genOk (a : Args) (p : Pkg) (g : Gen) : Bool :=
  match runGen a p g with
  | .ok _ => true
  | .error _ => false

theorem gather_spec (a : Args) (p : Pkg) (gens : List Gen) (acc : List (Str × Str)) :
    (gens.all (genOk a p) = true → gather a p gens acc = .ok (acc ++ gens.filterMap (outOf a p))) ∧
    (gens.all (genOk a p) = false → ∃ e, gather a p gens acc = .error e) := by
  induction gens generalizing acc with
  | nil => exact ⟨fun _ => by rw [gather, List.filterMap_nil, List.append_nil], fun h => nomatch h⟩
  | cons g gs ih =>
    rw [gather, List.all_cons, List.filterMap_cons, genOk, outOf]
    cases runGen a p g with
    | error e => exact ⟨fun h => (nomatch h), fun _ => ⟨e, rfl⟩⟩
    | ok o =>
      cases o with
      | none => exact ih acc
      | some w => simpa only [List.append_assoc, List.singleton_append, Bool.true_and] using ih (acc ++ [w])

/-- C04 `gather_gens_perm`: the same generators in another order — the run of the package succeeds for both orders
    or for neither, and when it succeeds the (generator, text) pairs handed to the write phase are the same up to order -/
theorem gather_gens_perm (a : Args) (p : Pkg) {gens gens' : List Gen} (h : gens.Perm gens') :
    match gather a p gens [], gather a p gens' [] with
    | .ok ws, .ok ws' => ws.Perm ws'
    | .error _, .error _ => True
    | _, _ => False := by
  have hall : gens.all (genOk a p) = gens'.all (genOk a p) := h.all_eq
  cases hok : gens.all (genOk a p) with
  | true =>
    rw [(gather_spec a p gens []).1 hok, (gather_spec a p gens' []).1 (hall ▸ hok)]
    simpa using h.filterMap (outOf a p)
  | false =>
    obtain ⟨e, he⟩ := (gather_spec a p gens []).2 hok
    obtain ⟨e', he'⟩ := (gather_spec a p gens' []).2 (hall ▸ hok)
    rw [he, he']
    trivial

#print axioms gather_gens_perm
end Gengo.Pipeline

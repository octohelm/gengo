import Gengo.Model.LocalName
import Gengo.Gen.StdList
import Gengo.Props.Assoc
/-! Facts about the std table.  That no name and no path occurs twice holds of the table built from any list of
paths, by an invariant of `addP`; what depends on the list itself is evaluated in the kernel over `Gengo.Gen.stdPaths`,
which tools/extract regenerates from pkg/namer/std.list on every run: an edit to std.list re-checks it. -/
namespace Gengo.LocalName

section
variable {std : List (Str × Str)} {checkStd : Bool} {t t' : Tracker.Tracker} {path : Str}

theorem addP_go_some : ∀ cs, addP.go std checkStd t path cs = some t' →
    t' = t ∨ ∃ n, t.n2p.lookup n = none ∧ t' = ⟨(path, n) :: t.p2n, (n, path) :: t.n2p⟩
  | [], h => Or.inl (Option.some.inj h).symm
  | none :: _, h => nomatch h
  | some n :: rest, h => by
    rw [addP.go] at h
    -- whatever the std check answers: the candidate is skipped, or bound if its name is unbound
    generalize (checkStd && _) = reserved at h
    split at h
    · exact addP_go_some rest h
    · split at h
      · next hn => exact Or.inr ⟨n, Option.isNone_iff_eq_none.mp hn, (Option.some.inj h).symm⟩
      · exact addP_go_some rest h

/-- what the pinned `add` does unless it panics: nothing, or it binds `path`, unbound so far, to an unbound name -/
theorem addP_some (h : addP std checkStd t path = some t') :
    t' = t ∨ ∃ n, t.p2n.lookup path = none ∧ t.n2p.lookup n = none ∧
      t' = ⟨(path, n) :: t.p2n, (n, path) :: t.n2p⟩ := by
  rw [addP] at h
  split at h
  · exact Or.inl (Option.some.inj h).symm
  · next hp =>
    exact (addP_go_some _ h).imp_right fun ⟨n, hn, e⟩ => ⟨n, Option.not_isSome_iff_eq_none.mp hp, hn, e⟩

/-- no name and no path occurs twice, and `p2n` lists the paths of `n2p` -/
def Distinct (t : Tracker.Tracker) : Prop :=
  (t.n2p.map (·.1)).Nodup ∧ (t.n2p.map (·.2)).Nodup ∧ t.p2n.map (·.1) = t.n2p.map (·.2)

theorem addP_distinct (h : addP std checkStd t path = some t') (ht : Distinct t) : Distinct t' := by
  rcases addP_some h with rfl | ⟨n, hpath, hname, rfl⟩
  · exact ht
  · rw [Assoc.lookup_eq_none] at hpath hname
    exact ⟨List.nodup_cons.mpr ⟨hname, ht.1⟩, List.nodup_cons.mpr ⟨ht.2.2 ▸ hpath, ht.2.1⟩,
      congrArg (path :: ·) ht.2.2⟩

end

theorem stdTable_nodup (paths : List Str) :
    ((stdTable paths).map (·.1)).Nodup ∧ ((stdTable paths).map (·.2)).Nodup := by
  have h : ∀ t, paths.foldl (fun t p => t.bind fun t => addP [] false t p) (some Tracker.empty) = some t →
      Distinct t := by
    refine List.foldlRecOn (motive := fun o => ∀ t, o = some t → Distinct t) paths _ ?_ ?_
    · rintro t ⟨⟩; exact ⟨List.nodup_nil, List.nodup_nil, rfl⟩
    · intro o ih p _ t' h
      obtain ⟨t, rfl, h⟩ := Option.bind_eq_some_iff.mp h
      exact addP_distinct h (ih t rfl)
  rw [stdTable]
  cases hf : paths.foldl _ _ with
  | none => exact ⟨List.nodup_nil, List.nodup_nil⟩
  | some t => exact ⟨(h t hf).1, (h t hf).2.1⟩

abbrev stdPaths : List Str := Gengo.Gen.stdPaths

def nodupB : List Str → Bool
  | [] => true
  | x :: xs => !xs.contains x && nodupB xs

theorem nodupB_iff : (l : List Str) → (nodupB l = true ↔ l.Nodup)
  | [] => by simp [nodupB]
  | x :: xs => by
    rw [nodupB, Bool.and_eq_true, Bool.not_eq_true', List.contains_eq_mem, decide_eq_false_iff_not, List.nodup_cons,
      nodupB_iff xs]

/-- the facts about the std table as one Boolean -/
def stdOK (t : List (Str × Str)) : Bool :=
  t.all (fun e => isIdent e.1) && (t.length == stdPaths.length) &&
  nodupB (t.map (·.1)) && nodupB (t.map (·.2)) &&
  (t.lookup "json".toList == some "encoding/json".toList) &&
  (t.lookup "template".toList == some "html/template".toList) &&
  (t.lookup "texttemplate".toList == some "text/template".toList)

/-- what is a fact about std.list: one kernel evaluation (`decide +kernel`, no `native_decide`) of the table built
    from the regenerated list -/
theorem std_facts : (stdTable stdPaths).all (fun e => isIdent e.1) = true ∧
    (stdTable stdPaths).length = stdPaths.length ∧
    (stdTable stdPaths).lookup "json".toList = some "encoding/json".toList ∧
    (stdTable stdPaths).lookup "template".toList = some "html/template".toList ∧
    (stdTable stdPaths).lookup "texttemplate".toList = some "text/template".toList := by
  decide +kernel

theorem std_ok : stdOK (stdTable stdPaths) = true := by
  obtain ⟨hv, hl, hj, ht, htt⟩ := std_facts
  obtain ⟨hn, hp⟩ := stdTable_nodup stdPaths
  simp only [stdOK, Bool.and_eq_true, beq_iff_eq, nodupB_iff]
  exact ⟨⟨⟨⟨⟨⟨hv, hl⟩, hn⟩, hp⟩, hj⟩, ht⟩, htt⟩

/-- every std short name is a valid non-keyword identifier -/
theorem std_names_valid : (stdTable stdPaths).all (fun e => isIdent e.1) = true :=
  std_facts.1

/-- every std path got a name: the table has one entry per line of std.list -/
theorem std_all_bound : (stdTable stdPaths).length = stdPaths.length :=
  std_facts.2.1

/-- std short names are pairwise distinct and std paths are pairwise distinct -/
theorem std_names_nodup : ((stdTable stdPaths).map (·.1)).Nodup :=
  (stdTable_nodup stdPaths).1
theorem std_paths_nodup : ((stdTable stdPaths).map (·.2)).Nodup :=
  (stdTable_nodup stdPaths).2

/-- spot facts the property text mentions -/
theorem std_json : (stdTable stdPaths).lookup "json".toList = some "encoding/json".toList :=
  std_facts.2.2.1
theorem std_templates : (stdTable stdPaths).lookup "template".toList = some "html/template".toList ∧
    (stdTable stdPaths).lookup "texttemplate".toList = some "text/template".toList :=
  std_facts.2.2.2

#print axioms std_names_valid
#print axioms std_names_nodup
end Gengo.LocalName

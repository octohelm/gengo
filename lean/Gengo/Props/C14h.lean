import Gengo.Props.C14g
import Gengo.Props.C14e
namespace Gengo.Resolver2
open Gengo.Resolver (Res Visits visited MarkedExactly)

/-! ### C14 `literal_exact` on the extended language -/

/-- every `return` of the body lists one literal per declared result (assignments may be anything) -/
def LiteralOnly (fn : Func) (body : List Stmt) : Prop :=
  ∀ s ∈ body, ∀ q rs, s = Stmt.ret q rs →
    ∃ rhs, rs = some rhs ∧ rhs.length = fn.results.length ∧ ∀ e ∈ rhs, ∃ v, e = Expr.lit v

def litAt (rhs : List Expr) (a : Nat) : List Res :=
  match rhs[a]? with
  | some (.lit v) => [.val v]
  | _ => []

/-- the literal values written at position `a` of each `return`, in source order -/
def litsAt : List Stmt → Nat → List Res
  | [], _ => []
  | .ret _ (some rhs) :: rest, a => litAt rhs a ++ litsAt rest a
  | _ :: rest, a => litsAt rest a

theorem exprsAt_literal {p : Prog} {rec : Rec} {retN q : Nat} {body : List Stmt} {vs : Visits}
    {rhs : List Expr} {n a : Nat} (hlen : rhs.length = n) (hlit : ∀ e ∈ rhs, ∃ v, e = Expr.lit v) (ha : a < n) :
    exprsAt p rec retN q rhs n a (post p rec retN body collect) vs = some (litAt rhs a, vs) := by
  subst hlen
  obtain ⟨v, hv⟩ := hlit rhs[a] (List.getElem_mem ha)
  simp only [exprsAt, litAt, Nat.lt_irrefl, and_false, if_false, List.getElem?_eq_getElem ha, hv]
  rfl

theorem stmtsAt_literal (p : Prog) (rec : Rec) (fn : Func) (body : List Stmt) (a : Nat)
    (ha : a < fn.results.length) :
    ∀ (ss : List Stmt), LiteralOnly fn ss → ∀ vs,
      stmtsAt p rec fn.results.length fn body a collect ss vs = some (litsAt ss a, vs) := by
  intro ss
  -- the clauses of `stmtsAt`: no statement; an assignment; a bare `return` (a literal-only body has none); a
  -- `return` with results
  fun_induction stmtsAt p rec fn.results.length fn body a collect ss with
  | case1 => exact fun _ _ => rfl
  | case2 _ _ _ rest ih => exact fun h => ih (List.forall_mem_cons.mp h).2
  | case3 q rest ih => exact fun h => nomatch (List.forall_mem_cons.mp h).1 q none rfl
  | case4 q rhs rest ih =>
    intro h vs
    obtain ⟨h₁, hrest⟩ := List.forall_mem_cons.mp h
    obtain ⟨_, ⟨⟩, hlen, hlit⟩ := h₁ q _ rfl
    simp only [litsAt, seq, exprsAt_literal hlen hlit ha, ih hrest vs]

/-- per position: from any state in which position `a` is still unmarked -/
theorem funcAt_literal (p : Prog) (fuel g a : Nat) (fn : Func) (body : List Stmt) (hfn : p[g]? = some fn)
    (hb : fn.body = some body) (hl : LiteralOnly fn body) (ha : a < fn.results.length) (vs : Visits)
    (hun : (visited true vs g a fn.results.length).1 = false) :
    funcAt p (fuel + 1) vs g fn.results.length a collect =
      some (litsAt body a, (visited true vs g a fn.results.length).2) := by
  simp only [funcAt, hfn, hb]
  -- as in `Resolver.funcAt_literal`: `hun` says the answer of `visited …` is `false`, so the body is gone through
  generalize visited true vs g a fn.results.length = r at hun ⊢
  obtain ⟨seen, vs'⟩ := r
  obtain rfl : seen = false := hun
  exact stmtsAt_literal p _ fn body a ha body hl vs'

/-- what `ResultsOf` reports for position `a` of a literal-only function -/
def expected (fn : Func) (body : List Stmt) (a : Nat) : List Res :=
  let l := litsAt body a
  if l.isEmpty then [Res.ty (fn.results[a]?.getD [])] else l

theorem resultsOfAux_literal (p : Prog) (fuel g : Nat) (fn : Func) (body : List Stmt) (hfn : p[g]? = some fn)
    (hb : fn.body = some body) (hl : LiteralOnly fn body) :
    ∀ (as done : List Nat) (vs : Visits) (acc : List (List Res)),
      MarkedExactly vs g fn.results.length done → (∀ a ∈ as, a < fn.results.length ∧ a ∉ done) → as.Nodup →
      resultsOfAux p (fuel + 1) g fn as vs acc = some (acc ++ as.map (expected fn body)) := by
  intro as done vs acc
  rw [resultsOfAux_eq]
  exact Resolver.collectAux_exact (fun a ha vs hun => funcAt_literal p fuel g a fn body hfn hb hl ha vs hun) as done vs acc

/-- C14 `literal_exact`, extended language: for a function all of whose `return`s list one
    literal per result — whatever assignments, named results and calls the rest of the program
    contains — `ResultsOf` reports, per declared result in order, exactly the literal values written
    at that position of each `return` in source order. -/
theorem literal_exact (p : Prog) (fuel g : Nat) (fn : Func) (body : List Stmt) (hfn : p[g]? = some fn)
    (hb : fn.body = some body) (hl : LiteralOnly fn body) :
    resultsOf p (fuel + 1) g = some ((List.range fn.results.length).map (expected fn body)) := by
  unfold resultsOf
  simp only [hfn]
  exact resultsOfAux_literal p fuel g fn body hfn hb hl (List.range fn.results.length) [] [] []
    (Or.inl ⟨rfl, rfl⟩) (fun a ha => ⟨List.mem_range.mp ha, List.not_mem_nil⟩) List.nodup_range

-- a literal-only function with an assignment beside its `return`s
example :
    let f : Func := ⟨["int".toList, "string".toList], [none, none],
      some [.assign 1 [some 7] [.opaque "int".toList],
            .ret 2 (some [.lit "1".toList, .lit "\"a\"".toList]),
            .ret 3 (some [.lit "2".toList, .lit "\"b\"".toList])]⟩
    resultsOf [f] 5 0 = some [[.val "1".toList, .val "2".toList], [.val "\"a\"".toList, .val "\"b\"".toList]] := by
  decide

#print axioms literal_exact
end Gengo.Resolver2

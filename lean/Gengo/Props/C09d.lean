import Gengo.Model.Sprintf
namespace Gengo.Sprintf

/-- inverse of `Comment`: strip `// ` from every line -/
def joinLines : List Str → Str
  | [] => []
  | [l] => l
  | l :: ls => l ++ '\n' :: joinLines ls

theorem splitLines_ne_nil (v cur : Str) : splitLines v cur ≠ [] := by
  induction v generalizing cur with
  | nil => simp [splitLines]
  | cons c cs ih => rw [splitLines]; split <;> simp [ih]

theorem splitLines_join (cur : Str) (v : Str) :
    joinLines (splitLines v cur) = cur.reverse ++ v := by
  induction v generalizing cur with
  | nil => simp [splitLines, joinLines]
  | cons c cs ih =>
    rw [splitLines]
    split
    · rename_i hc
      rw [joinLines, ih []]
      · simp [eq_of_beq hc]
      · exact splitLines_ne_nil cs []
    · simp [ih (c :: cur)]

/-- C09 `comment_roundtrip`: `Comment` renders each line of its text as a `// ` line — splitting the
    text into lines loses nothing -/
theorem lines_roundtrip (v : Str) : joinLines (splitLines v []) = v := by
  simpa using splitLines_join [] v

/-- every rendered line starts with `// ` and the lines are the text's lines, in order -/
theorem comment_lines (v : Str) (hv : v ≠ []) :
    comment v = (((splitLines v []).map fun l => "// ".toList ++ l).intersperse ['\n']).flatten := by
  rw [comment, if_neg (by simpa using hv)]

end Gengo.Sprintf

import Gengo.Props.Pipe
import Gengo.Props.Order
namespace Gengo.Pipeline

/-- the sum file's bytes do not depend on the order packages were registered in -/
theorem sumData_perm {l₁ l₂ : List Pkg} (h : l₁.Perm l₂)
    (hd : ∀ a ∈ l₁, ∀ b ∈ l₁, a.path = b.path → a = b) : sumData l₁ = sumData l₂ := by
  unfold sumData SumFile.bytes
  rw [sortBy_perm (·.1) (h.map fun p => (p.path, p.hash))]
  intro x hx y hy hxy
  obtain ⟨a, ha, rfl⟩ := List.mem_map.mp hx
  obtain ⟨b, hb, rfl⟩ := List.mem_map.mp hy
  rw [hd a ha b hb hxy]

/-- C04 `execute_perm` (packages): the whole run — every effect, its payload and the result — is
    the same whatever order the local packages / entrypoints arrive in. -/
theorem execute_perm (parses : Str → Bool) (order) (a : Args) (root : Str) (prev) (gens : List Gen)
    {pkgs₁ pkgs₂ : List Pkg} (h : pkgs₁.Perm pkgs₂)
    (hd : ∀ a ∈ pkgs₁, ∀ b ∈ pkgs₁, a.path = b.path → a = b) :
    execute parses order a root prev pkgs₁ gens = execute parses order a root prev pkgs₂ gens := by
  unfold execute sortedPkgs
  rw [sortBy_perm (·.path) h hd]
  simpa only [List.map_id] using goPkgs_congr (sh := id) rfl (sumData_perm h hd) fun _ _ => ⟨rfl, rfl⟩

/-- the dispatch order does not depend on the iteration order of the type table -/
theorem sortedTypes_perm {ts₁ ts₂ : List TypeObj} (h : ts₁.Perm ts₂)
    (hd : ∀ a ∈ ts₁, ∀ b ∈ ts₁, a.name = b.name → a = b) : sortedTypes ts₁ = sortedTypes ts₂ := by
  unfold sortedTypes
  exact sortBy_perm (fun t : TypeObj => t.name) h hd

#print axioms execute_perm
end Gengo.Pipeline

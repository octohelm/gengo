import Gengo.Model.Loader
/-!
C13 `methods_exact`: methods are grouped under the receiver's `*types.Named`.  For a generic type
the receiver of `func (G[T]) M()` is an *instantiated* named type — a different object than the
declared (origin) type.  `byOrigin = false`: pinned grouping; `true`: repaired (`Origin()`).
-/
namespace Gengo.Methods

/-- repaired grouping: exactly the declared methods of `T`, resp. those with value receivers,
    in declaration order — generic or not -/
theorem methods_exact (ms : List Method) (t : Nat) :
    methodsOf true ms t true = ms.filter (·.recvOrigin == t) ∧
    methodsOf true ms t false = ms.filter (fun m => m.recvOrigin == t && !m.ptrRecv) := by
  constructor <;> simp [methodsOf]

/-- pinned grouping (F12c): the methods of a generic type are filed under another object -/
example : methodsOf false [⟨['M'], 1, 7, false⟩] 1 true = [] ∧
    methodsOf true [⟨['M'], 1, 7, false⟩] 1 true = [⟨['M'], 1, 7, false⟩] := by decide

end Gengo.Methods

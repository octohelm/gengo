/-!
C08 at the level of histories: packages have contents, a run regenerates the packages it does
not skip and then records, for every package, the hash of the contents it *loaded*.
`hash` is injective (dirhash collision freedom); a generator is a deterministic function of the
directory it finds, and applying it to its own result changes nothing.  The last two (`Sys.gen`, `Sys.gen_idem`) are
assumptions about the generators, not facts about gengo: a generator that also reads other packages of the run, as the
shipped deepcopy generator does (finding F31), is outside this model.
-/
namespace Gengo.CacheHistory

abbrev Str := List Char

structure W where
  content : Str → Nat                       -- package path ↦ directory contents (abstract)
  sum : Option (Str → Option Str)           -- gengo.sum as loaded; `none` = missing / unreadable

structure Sys where
  hash : Nat → Str
  gen : Str → Nat → Nat
  hash_inj : ∀ a b, hash a = hash b → a = b
  gen_idem : ∀ p c, gen p (gen p c) = gen p c

/-- the repaired skip decision -/
def changed (s : Sys) (force : Bool) (w : W) (p : Str) : Bool :=
  force || match w.sum with
    | none => true
    | some m => m p != some (s.hash (w.content p))

def run (s : Sys) (force : Bool) (w : W) : W where
  content := fun p => if changed s force w p then s.gen p (w.content p) else w.content p
  sum := some fun p => some (s.hash (w.content p))

/-- packages regenerated by a run -/
def regenerated (s : Sys) (force : Bool) (w : W) (p : Str) : Bool := changed s force w p

theorem run_content (s : Sys) (f : Bool) (w : W) (p : Str) :
    (run s f w).content p = if changed s f w p then s.gen p (w.content p) else w.content p := rfl

/-- the decision looks at the world only through the package's contents and its entry in the sum -/
theorem changed_eq (s : Sys) (f : Bool) (w : W) (p : Str) :
    changed s f w p = (f || w.sum.map (· p) != some (some (s.hash (w.content p)))) := by
  rw [changed]
  cases w.sum <;> rfl

/-- a package that a run left as it found it is skipped by the next run: the sum now holds its hash -/
theorem changed_run_of_untouched {s : Sys} {f : Bool} {w : W} {p : Str} (h : (run s f w).content p = w.content p) :
    changed s false (run s f w) p = false := by
  rw [changed, h]
  simp [run]

/-- C08 `skip_sound`, history form: a package is skipped only if its directory is exactly what the
    last run that wrote the sum file loaded -/
theorem skip_means_unchanged (s : Sys) (w : W) (p : Str) (m : Str → Option Str) (c₀ : Nat)
    (hsum : w.sum = some m) (hrec : m p = some (s.hash c₀)) (h : changed s false w p = false) :
    w.content p = c₀ := by
  simp only [changed, hsum, Bool.false_or, bne_eq_false_iff_eq, hrec, Option.some.injEq] at h
  exact (s.hash_inj _ _ h).symm

/-- after two runs the contents no longer move -/
theorem content_stable (s : Sys) (f₁ : Bool) (w : W) (p : Str) :
    (run s false (run s f₁ w)).content p = (run s f₁ w).content p := by
  rw [run_content s false]
  cases h : changed s f₁ w p with
  | false =>
    -- skipped by the first run, so skipped by the second
    have h₁ : (run s f₁ w).content p = w.content p := by rw [run_content, h]; rfl
    rw [changed_run_of_untouched h₁]; rfl
  | true =>
    -- generated by the first run: generating again changes nothing
    have h₁ : (run s f₁ w).content p = s.gen p (w.content p) := by rw [run_content, h]; rfl
    rw [h₁, s.gen_idem, ite_self]

/-- C08 `converges`: on unchanged inputs the third run regenerates nothing and changes nothing
    (two runs are needed: the first records hashes that predate the files it creates) -/
theorem converges (s : Sys) (f₁ : Bool) (w : W) (p : Str) :
    let w₂ := run s false (run s f₁ w)
    regenerated s false w₂ p = false ∧
    (run s false w₂).content p = w₂.content p ∧
    ((run s false w₂).sum.bind (· p)) = (w₂.sum.bind (· p)) := by
  intro w₂
  have hstable : w₂.content p = (run s f₁ w).content p := content_stable s f₁ w p
  -- the third run is the second run after `run s f₁ w`; each sum holds the hashes of the contents its run loaded
  exact ⟨changed_run_of_untouched hstable, content_stable s false _ p, congrArg (some ∘ s.hash) hstable⟩

#print axioms converges
end Gengo.CacheHistory

import Gengo.Gen.Code.C12
import Gengo.Model.Tags
import Gengo.Props.GoRtLemmas
/-!
C12, tie by translation: the Lean definitions that `go2lean` regenerates from `pkg/types/comments.go` on every run
(`Gengo.Code.splitKV`, `oneOf`, `ExtractCommentTags`) are equal to the hand-written model `Gengo.Tags` about which
`Props/C12a` proves `splitKV_spec`, `classify_once`, `tag_iff`, `others_spec`.  They never panic.
-/
namespace Gengo.TrC12
open Gengo Gengo.Go Gengo.Code

theorem splitKV_loop_value (cs k v : Str) :
    splitKV.loop1 cs k v true = pure (k, v ++ cs, true) := by
  induction cs generalizing v with
  | nil => simp [splitKV.loop1]
  | cons c cs ih => simp [splitKV.loop1, ih]

theorem splitKV_loop_key (cs k : Str) :
    splitKV.loop1 cs k [] false = pure (k ++ (Tags.splitKV cs).1, (Tags.splitKV cs).2, cs.any fun c => c == '=' || c == ' ') := by
  induction cs generalizing k with
  | nil => simp [splitKV.loop1, Tags.splitKV]
  | cons c cs ih =>
    by_cases h : (c == '=' || c == ' ') = true <;> simp [splitKV.loop1, Tags.splitKV, h, splitKV_loop_value, ih]

theorem splitKV_eq (line : Str) : Code.splitKV line = pure (Tags.splitKV line) := by
  simp [Code.splitKV, splitKV_loop_key]

theorem oneOf_loop (b : Char) (ms : List Char) :
    oneOf.loop1 b ms = pure (if ms.contains b then .ret true else .next ()) := by
  induction ms with
  | nil => rfl
  | cons m ms ih =>
    rw [oneOf.loop1, List.contains_cons, ih]
    cases b == m <;> rfl

theorem oneOf_eq (ms : List Char) (b : Char) : Code.oneOf ms b = pure (ms.contains b) := by
  rw [Code.oneOf, oneOf_loop]
  cases ms.contains b <;> rfl

theorem strTrim_space (l : Str) : Go.strTrim l [' '] = Tags.trimSpaces l := by
  have : (fun x : Char => decide (x = ' ')) = (fun x => x == ' ') := by funext x; rfl
  simp [Go.strTrim, Tags.trimSpaces, this]

/-- `tags[k] = append(tags[k], v)` as the translated code spells it -/
theorem mapSet_append (m : List (Str × List Str)) (k v : Str) :
    Go.mapSet m k (Go.mapGet m k [] ++ [v]) = Tags.addTag m k v := by
  induction m with
  | nil => rfl
  | cons kv rest ih =>
    obtain ⟨k', vs⟩ := kv
    by_cases h : k' = k <;> simp [Go.mapSet, Go.mapGet, Tags.addTag, h, ih]

theorem extract_loop (markers : List Char) (lines : List Str) (m : List (Str × List Str)) (o : List Str) :
    ExtractCommentTags.loop1 markers lines m o = pure (Tags.extractAux markers lines (m, o)) := by
  induction lines generalizing m o with
  | nil => rfl
  | cons l ls ih =>
    rw [ExtractCommentTags.loop1, Tags.extractAux, Tags.classify, strTrim_space]
    cases Tags.trimSpaces l with
    | nil => exact ih _ _
    | cons c cs =>
      simp only [bne_iff_ne, ne_eq, GoRtLemmas.len_eq_zero, reduceCtorEq, not_false_eq_true, if_true,
        GoRtLemmas.idx_zero, oneOf_eq, pure_bind, GoRtLemmas.slice_tail, splitKV_eq, mapSet_append]
      cases markers.contains c <;> exact ih _ _

/-- the translated `ExtractCommentTags` is the model's `extract`, with the default markers when none are given -/
theorem extractCommentTags_eq (lines : List Str) (markers : List Char) :
    Code.ExtractCommentTags lines markers =
      pure (Tags.extract (if markers.isEmpty then Gengo.Gen.defaultMarkers else markers) lines) := by
  simp only [Code.ExtractCommentTags, extract_loop, pure_bind, beq_iff_eq, GoRtLemmas.len_eq_zero, List.isEmpty_iff]
  rfl

/-- never panics, never runs out of fuel: the outcome is always a value -/
theorem extractCommentTags_total (lines : List Str) (markers : List Char) :
    ∃ r, Code.ExtractCommentTags lines markers = .ok r := ⟨_, extractCommentTags_eq lines markers⟩

example : Code.ExtractCommentTags ["+foo=value1".toList, " text".toList, "+foo value2".toList] [] =
    .ok ([("foo".toList, ["value1".toList, "value2".toList])], ["text".toList]) := by
  simp only [String.reduceToList]; rfl

end Gengo.TrC12

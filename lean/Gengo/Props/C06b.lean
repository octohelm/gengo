import Gengo.Props.Pipe
namespace Gengo.Pipeline
open Gengo.Tags

/-- the generator's reactions, in call order (the generator is a state machine; nothing else) -/
def reactions (a : Args) (p : Pkg) (g : Gen) : List TypeObj → g.σ → List Reaction
  | [], _ => []
  | t :: ts, st =>
    match handler a p g t with
    | none => reactions a p g ts st
    | some f => (f st p.path t).2 :: reactions a p g ts (f st p.path t).1

/-- `defer_order`, first half: when the dispatch loop ends without error, the context holds
    exactly the rendered fragments and exactly the registered callbacks of the calls made, each
    once, in call order; no call failed. -/
theorem dispatch_log (a : Args) (p : Pkg) (g : Gen) (ts : List TypeObj) :
    ∀ (s s' : GState g), dispatch a p g ts s = .ok s' →
      s'.body = s.body ++ (reactions a p g ts s.st).flatMap (·.renders) ∧
      s'.defers = s.defers ++ (reactions a p g ts s.st).flatMap (·.defers) ∧
      ∀ r ∈ reactions a p g ts s.st, r.verdict ≠ .fail := by
  induction ts with
  | nil => intro s s' h; cases h; simp [reactions]
  | cons t ts ih =>
    intro s s' h
    cases hh : handler a p g t <;> simp only [dispatch_cons, hh] at h <;> simp only [reactions, hh]
    · exact ih s s' h
    · split at h
      · cases h
      · next hv =>
        obtain ⟨h1, h2, h3⟩ := ih _ _ h
        simp only [List.flatMap_cons, List.mem_cons, forall_eq_or_imp]
        exact ⟨by rw [h1, List.append_assoc], by rw [h2, List.append_assoc], by simpa using hv, h3⟩

theorem runDefers_spec (p : Pkg) (g : Gen) (ds : List DeferCb) :
    ∀ body body', runDefers p g ds body = .ok body' →
      body' = body ++ ds.flatMap (·.renders) ∧ ∀ d ∈ ds, d.fails = false := by
  intro body body' h
  rw [runDefers_eq] at h
  split at h
  · cases h
  · next hf => cases h; exact ⟨rfl, by simpa using hf⟩

/-- C06 `defer_order`: if generator `g` produces a file for package `p`, its text is: the
    fragments rendered by the `GenerateType`/`GenerateAliasType` calls in call order, followed by
    what the registered callbacks render — every callback of every call exactly once, in
    registration order, after the last type call and before anything is written (the text is the
    only thing the write phase sees). -/
theorem defer_order (a : Args) (p : Pkg) (g : Gen) (w : Str × Str) (h : runGen a p g = .ok (some w)) :
    let rs := reactions a p g (sortedTypes p.types) g.new
    w = (g.name, (rs.flatMap (·.renders) ++ (rs.flatMap (·.defers)).flatMap (·.renders)).flatten) ∧
    (∀ d ∈ rs.flatMap (·.defers), d.fails = false) ∧ (∀ r ∈ rs, r.verdict ≠ .fail) := by
  -- `runGen` has returned a text, so the dispatch loop has succeeded and no callback fails
  rw [runGen_eq] at h
  split at h
  · cases h
  · next s hd =>
    obtain ⟨h1, h2, h3⟩ := dispatch_log a p g _ _ _ hd
    by_cases hf : s.defers.any (·.fails) = true
    · rw [if_pos hf] at h; cases h
    · rw [if_neg hf] at h
      obtain ⟨_, hw⟩ := Option.ite_none_left_eq_some.mp (Except.ok.inj h)
      rw [h1, h2] at hw
      rw [h2] at hf
      exact ⟨(Option.some.inj hw).symm,
        fun d hd => Bool.eq_false_iff.mpr fun hd' => hf (List.any_eq_true.mpr ⟨d, hd, hd'⟩), h3⟩

#print axioms defer_order
end Gengo.Pipeline

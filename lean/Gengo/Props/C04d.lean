import Gengo.Props.C04c
/-!
C04, the third kind of Go map on the path: the *tag maps*.  `Args.Globals`, a package's tags and a
declaration's tags are `map[string][]string`; `merge` ranges over them and the merged map is what a
generator is handed.  `handler_perm` (`Props/C04b`) shows the dispatch decision does not depend on their
order; here that is carried through `dispatch`, `runGen`, `gather`, `pkgExecute`, `goPkgs` and `execute`:
the whole run is the same.  The one hypothesis is about the generators, and it is needed: a generator
whose reaction depends on the order in which a tag map is *presented* to it (it can range over it) is
itself order-dependent — `TagOrderFree` says it is not.  With `execute_deterministic` (`Props/C04c`:
order of packages, order of the type table) this covers every map the run iterates over.
-/
namespace Gengo.Pipeline
open Gengo.Tags

/-- `t'` is `t` with its tag map presented in another order -/
def TagsShuffledT (t t' : TypeObj) : Prop := t'.name = t.name ∧ t'.kind = t.kind ∧ t.tags.Perm t'.tags

/-- the generator reacts to *what* tags a declaration has, not to the order a map presents them in -/
structure TagOrderFree (g : Gen) : Prop where
  onType : ∀ st path t t', TagsShuffledT t t' → g.onType st path t' = g.onType st path t
  onAlias : ∀ f, g.onAlias = some f → ∀ st path t t', TagsShuffledT t t' → f st path t' = f st path t

/-- `q` is `p` with the package's tag map and every declaration's tag map presented in another order -/
def TagOrderShuffled (p q : Pkg) : Prop :=
  ∃ (pt : TagMap) (shT : TypeObj → TypeObj),
    q = { p with pkgTags := pt, types := p.types.map shT } ∧
    p.pkgTags.Perm pt ∧ DistinctKeys p.pkgTags ∧
    ∀ t ∈ p.types, TagsShuffledT t (shT t) ∧ DistinctKeys t.tags

theorem dispatch_tagorder (a a' : Args) (p p' : Pkg) (g : Gen) (hfree : TagOrderFree g)
    (hpath : p'.path = p.path)
    (hg : a.globals.Perm a'.globals) (dg : DistinctKeys a.globals)
    (hp : p.pkgTags.Perm p'.pkgTags) (dp : DistinctKeys p.pkgTags)
    (shT : TypeObj → TypeObj) :
    ∀ (ts : List TypeObj) (s : GState g), (∀ t ∈ ts, TagsShuffledT t (shT t) ∧ DistinctKeys t.tags) →
      dispatch a' p' g (ts.map shT) s = dispatch a p g ts s := by
  intro ts s h
  refine dispatch_congr hpath fun t ht => ?_
  obtain ⟨hsh, dt⟩ := h t ht
  refine ⟨hsh.1, hsh.2.1, (handler_perm a a' p p' g t (shT t) hsh.2.1.symm hg hp hsh.2.2 dg dp dt).symm, fun f hf st => ?_⟩
  rcases handler_some hf with rfl | hf'
  · exact hfree.onType st p.path t (shT t) hsh
  · exact hfree.onAlias f hf' st p.path t (shT t) hsh

theorem sortedTypes_map {shT : TypeObj → TypeObj} {ts : List TypeObj}
    (h : ∀ t ∈ ts, (shT t).name = t.name) : sortedTypes (ts.map shT) = (sortedTypes ts).map shT :=
  sortBy_map shT (·.name) (·.name) ts h

theorem runGen_tagorder (a a' : Args) (p q : Pkg) (g : Gen) (hfree : TagOrderFree g)
    (hg : a.globals.Perm a'.globals) (dg : DistinctKeys a.globals) (hq : TagOrderShuffled p q) :
    runGen a' q g = runGen a p g := by
  obtain ⟨pt, shT, rfl, hp, dp, ht⟩ := hq
  refine runGen_congr rfl fun s => ?_
  rw [sortedTypes_map fun t h => (ht t h).1.1]
  refine dispatch_tagorder a a' p _ g hfree ?_ hg dg hp dp shT _ s fun t h => ht t ((mem_sortBy _ _ _).mp h)
  rfl

theorem gather_tagorder (a a' : Args) (p q : Pkg)
    (hg : a.globals.Perm a'.globals) (dg : DistinctKeys a.globals) (hq : TagOrderShuffled p q) :
    ∀ (gens : List Gen) (acc : List (Str × Str)), (∀ g ∈ gens, TagOrderFree g) →
      gather a' q gens acc = gather a p gens acc := by
  intro gens acc h
  exact gather_congr fun g hg' => runGen_tagorder a a' p q g (h g hg') hg dg hq

/-- the same arguments, the Globals map presented in another order -/
def GlobalsShuffled (a a' : Args) : Prop :=
  a' = { a with globals := a'.globals } ∧ a.globals.Perm a'.globals ∧ DistinctKeys a.globals

theorem pkgExecute_tagorder (parses : Str → Bool) (order) (a a' : Args) (gens : List Gen) {p q : Pkg}
    (ha : GlobalsShuffled a a') (hq : TagOrderShuffled p q) (hgens : ∀ g ∈ gens, TagOrderFree g) :
    pkgExecute parses order a' q gens = pkgExecute parses order a p gens := by
  obtain ⟨ha', hg, dg⟩ := ha
  have hrun := fun g hg' => runGen_tagorder a a' p q g (hgens g hg') hg dg hq
  obtain ⟨pt, shT, rfl, _⟩ := hq
  exact pkgExecute_congr (by rw [ha']) rfl rfl hrun

/-- C04, tag maps: present `Globals`, every package's tag map and every declaration's tag map in
    any order — the whole run (every effect with its payload, the sum file's bytes, the result) is
    the same, provided the generators do not themselves react to presentation order. -/
theorem execute_tagorder (parses : Str → Bool) (order) (a a' : Args) (root : Str) (prev) (gens : List Gen)
    (pkgs : List Pkg) (shP : Pkg → Pkg)
    (ha : GlobalsShuffled a a') (hgens : ∀ g ∈ gens, TagOrderFree g)
    (hsh : ∀ p ∈ pkgs, TagOrderShuffled p (shP p)) :
    execute parses order a' root prev (pkgs.map shP) gens = execute parses order a root prev pkgs gens := by
  have ha' := ha.1
  refine execute_congr (by rw [ha']) (by rw [ha']) (by rw [ha']) fun p hp => ?_
  obtain ⟨pt, shT, hq, _⟩ := hsh p hp
  refine ⟨?_, ?_, ?_, pkgExecute_tagorder parses order a a' gens ha (hsh p hp) hgens⟩ <;> rw [hq]

/-- C04 `execute_deterministic`, all maps: packages in any order, every type table in any order,
    every tag map in any order. -/
theorem execute_deterministic_all (parses : Str → Bool) (order) (a a' : Args) (root : Str) (prev) (gens : List Gen)
    (pkgs₁ pkgs₂ : List Pkg) (shTypes shTags : Pkg → Pkg)
    (hperm : pkgs₂.Perm (pkgs₁.map shTypes))
    (hsh : ∀ p ∈ pkgs₁, TypesShuffled p (shTypes p) ∧ TypesDistinct p)
    (hd : ∀ x ∈ pkgs₁, ∀ y ∈ pkgs₁, x.path = y.path → x = y)
    (ha : GlobalsShuffled a a') (hgens : ∀ g ∈ gens, TagOrderFree g)
    (htags : ∀ p ∈ pkgs₂, TagOrderShuffled p (shTags p)) :
    execute parses order a' root prev (pkgs₂.map shTags) gens = execute parses order a root prev pkgs₁ gens := by
  rw [execute_tagorder parses order a a' root prev gens pkgs₂ shTags ha hgens htags]
  exact execute_deterministic parses order a root prev gens pkgs₁ pkgs₂ shTypes hperm hsh hd

/-- the hypotheses are met by a generator that looks at a tag *by key* (as `IsGeneratorEnabled` and the
    shipped generators do), on a declaration with two tags presented in either order -/
example :
    let t : TypeObj := ⟨"T".toList, .named, [("+a".toList, [[]]), ("+b".toList, [[]])]⟩
    let t' : TypeObj := ⟨"T".toList, .named, [("+b".toList, [[]]), ("+a".toList, [[]])]⟩
    TagsShuffledT t t' ∧ DistinctKeys t.tags := by
  refine ⟨⟨rfl, rfl, ?_⟩, by unfold DistinctKeys; decide⟩
  exact List.Perm.swap _ _ _

#print axioms execute_tagorder
#print axioms execute_deterministic_all
end Gengo.Pipeline

import Gengo.Props.TrC15
import Gengo.Props.Small
/-!
A property clause stated of the code as it stands: the theorem here is a clause of C15 about a definition of
`Gengo.Code` — regenerated from /repo's Go source on every run — obtained from the clause proved of the hand-written
model through the equivalence theorem of `Props/Tr*.lean`.
-/
namespace Gengo.TrCode
open Gengo Gengo.Go Gengo.Code

/-- C15: whenever the translated `ParseRef` accepts a string, the translated `PkgImportPathAndExpose` (before the
    `/vendor/` cut, which `importGoPath` applies to the path) reports the same package path -/
theorem code_splitRef_agree (s p n : Str) (h : Code.ParseRef s = .ok (some (p, n))) :
    ∃ q e, Code.PkgImportPathAndExpose s = .ok (q, e) ∧ (p = [] ∨ q = TypeRef.importGoPath p) ∧ ∃ rest, n = e ++ rest := by
  have hp : TypeRef.parseRef s = some (p, n) :=
    Except.ok.inj ((TrC15.parseRef_eq s).symm.trans h)
  obtain ⟨h1, rest, h2⟩ := TypeRef.splitRef_agree s p n hp
  refine ⟨_, _, TrC15.pkgImportPathAndExpose_eq s, Or.inr ?_, rest, h2⟩
  rw [← h1]
  exact TrC15.importGoPath_guard _

end Gengo.TrCode

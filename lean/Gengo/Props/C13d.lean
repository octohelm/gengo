import Gengo.Model.Loader
namespace Gengo.Locate
/-!
### C13 `sourceDir_correct`, `locate_correct`

Paths as segment lists (the harness compares with `filepath.Clean`ed strings, so `Join`'s
cleaning is the identity on them).  `(*pkgInfo).SourceDir` (pkg/types/package.go):
`Module().Dir` for the module's root package, else `Join(Module().Dir, PkgPath[len(Module().Path):])`;
`""` without a module.  `LocateInPackage` (pkg/types/load.go, the loop of `packageOfFile`): `range u.pkgs`
— a Go map — and the first package whose `SourceDir()` equals the file's directory.
-/
theorem sourceDir_correct (mp md rel : Path) :
    sourceDir { pkgPath := mp ++ rel, mod := some (mp, md) } = some (md ++ rel) := by
  simp only [sourceDir]
  split
  · next h => rw [List.append_right_eq_self.mp h, List.append_nil]
  · rw [List.drop_left]

theorem sourceDir_root (mp md : Path) : sourceDir { pkgPath := mp, mod := some (mp, md) } = some md := by
  simpa using sourceDir_correct mp md []

/-- `locate_correct`: when the module packages of the universe lie in pairwise distinct
    directories, the package found for a file in `p`'s directory is `p` — for every iteration
    order of the package map (the statement quantifies over the list). -/
theorem locate_correct (pkgs : List P) (p : P) (dir : Path) (hp : p ∈ pkgs) (hdir : sourceDir p = some dir)
    (hd : ∀ q ∈ pkgs, sourceDir q = some dir → q = p) : locate pkgs dir = some p := by
  unfold locate
  cases h : pkgs.find? fun q => sourceDir q == some dir with
  | none => exact absurd hdir (by simpa using List.find?_eq_none.mp h p hp)
  | some q => rw [hd q (List.mem_of_find?_eq_some h) (by simpa using List.find?_some h)]

/-- and a directory no package lives in is answered with `nil` -/
theorem locate_none (pkgs : List P) (dir : Path) (h : ∀ q ∈ pkgs, sourceDir q ≠ some dir) : locate pkgs dir = none := by
  unfold locate
  rw [List.find?_eq_none]
  intro q hq
  simpa using h q hq

/-- a package without module information can never be located (its `SourceDir()` is `""`) -/
example (dir : Path) : locate [{ pkgPath := [['f','m','t']], mod := none }] dir = none := by
  simp [locate, sourceDir]

#print axioms locate_correct
end Gengo.Locate

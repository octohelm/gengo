import Gengo.Model.Assemble
import Gengo.Props.Order
namespace Gengo.Assemble

/-- C01 `header_first` + `package_clause`: the assembled source opens with the block comment
    naming the generator, followed by the package clause with the target package's name -/
theorem header_first (pkg gen : Str) (imports : List (Str × Str)) (frags : List Str) :
    (header pkg gen).isPrefixOf (source pkg gen imports frags) = true := by
  unfold source
  rw [List.append_assoc]
  exact List.isPrefixOf_iff_prefix.mpr ⟨_, rfl⟩

/-- C01 `body_verbatim`: what the generator rendered is in the source, in order, untouched -/
theorem body_verbatim (pkg gen : Str) (imports : List (Str × Str)) (frags : List Str) :
    ∃ pre, source pkg gen imports frags = pre ++ frags.flatten := ⟨_, rfl⟩

/-- C04: the import block does not depend on the iteration order of the tracker's map -/
theorem importBlock_perm {m₁ m₂ : List (Str × Str)} (h : m₁.Perm m₂)
    (hd : ∀ a ∈ m₁, ∀ b ∈ m₁, a.1 = b.1 → a = b) : importBlock m₁ = importBlock m₂ := by
  rw [importBlock, importBlock, sortBy_perm (·.1) h hd, h.isEmpty_eq]

/-- C01/C03 `import_block_exact`: one line per binding, exactly the tracker's bindings -/
theorem importBlock_lines (m : List (Str × Str)) (hm : m ≠ []) :
    ∃ es : List (Str × Str), es.Perm m ∧ importBlock m = Gengo.Gen.importOpen ++ (es.map importLine).flatten ++ Gengo.Gen.importClose :=
  ⟨sortBy (·.1) m, perm_sortBy _ m, if_neg (by simpa using hm)⟩

/-- the literals regenerated from genfile.go are the ones the statements below are about: when the
    source's `Fprintf` formats change, these stop holding and the property module no longer builds -/
theorem header_shape (pkg gen : Str) :
    header pkg gen = "/*\nPackage ".toList ++ pkg ++ " GENERATED BY gengo:".toList ++ gen ++
      " \nDON'T EDIT THIS FILE\n*/\npackage ".toList ++ pkg ++ "\n".toList := by
  -- A string literal is `String.ofList` of its characters, so once each regenerated piece `hdrᵢ` is
  -- written `(String.ofList hdrᵢ).toList`, `rfl` compares characters and `toList` is never run on a
  -- literal (which is slow to check).
  rw [header, ← String.toList_ofList (l := hdr1), ← String.toList_ofList (l := hdr2),
    ← String.toList_ofList (l := hdr3), ← String.toList_ofList (l := hdr4)]
  rfl

/-- C01: the file opens with a block comment that names the generator, and the package clause with
    the target package's name follows it directly -/
theorem header_opens_with_comment (pkg gen : Str) (imports : List (Str × Str)) (frags : List Str) :
    ∃ rest, source pkg gen imports frags =
      '/' :: '*' :: ("\nPackage ".toList ++ pkg ++ " GENERATED BY gengo:".toList ++ gen ++
        " \nDON'T EDIT THIS FILE\n*/\npackage ".toList ++ pkg ++ '\n' :: rest) := by
  refine ⟨importBlock imports ++ frags.flatten, ?_⟩
  -- `l`: the characters of the literal; `toList_ofList` reads them off it by unification
  obtain ⟨l, h0, h1⟩ : ∃ l, "\nPackage ".toList = l ∧ "/*\nPackage ".toList = '/' :: '*' :: l :=
    ⟨_, String.toList_ofList, String.toList_ofList⟩
  have h4 : "\n".toList = ['\n'] := String.toList_ofList
  rw [source, header_shape, h1, h0, h4, List.append_assoc, List.append_assoc]
  rfl

theorem importLine_shape (e : Str × Str) : importLine e = '\t' :: (e.2 ++ ' ' :: '"' :: (e.1 ++ ['"', '\n'])) := by
  simp [importLine, Gengo.Gen.importLineParts]

theorem fileName_shape (base gen : Str) : fileName base gen = base ++ ['.'] ++ gen ++ ".go".toList := by
  simp [fileName, Gengo.Gen.fileNameParts]

example : importBlock [(['e'], ['e'])] = "\nimport (\n\te \"e\"\n)\n".toList := by
  refine Eq.trans ?_ String.toList_ofList.symm
  simp [importBlock, sortBy, importLine, Gengo.Gen.importOpen, Gengo.Gen.importClose, Gengo.Gen.importLineParts]

#print axioms importBlock_perm
end Gengo.Assemble

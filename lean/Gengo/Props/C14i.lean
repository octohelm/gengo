import Gengo.Props.C14g
namespace Gengo.Resolver2
open Gengo.Resolver (Res Visits visited)

/-! ### The extended model is a conservative extension of the core model

Every program of the core language (`Model/Resolver`), read as a program of the extended language,
gets the same answer from both models — so what `Props/C14a`–`C14f` prove about the core language
is also true of the extended model on that fragment, and the two correspondence streams check one
semantics. -/

def embedExpr : Resolver.Expr → Expr
  | .lit v => .lit v
  | .opaque t => .opaque t
  | .call f => .call ⟨[], [], some f⟩ .nil

def embedBody (rets : List (List Resolver.Expr)) : List Stmt :=
  rets.map fun r => Stmt.ret 0 (some (r.map embedExpr))

def embedFunc (fn : Resolver.Func) : Func :=
  ⟨fn.results.map (·.name), fn.results.map fun _ => none, some (embedBody fn.returns)⟩

def embed (p : Resolver.Prog) : Prog := p.map embedFunc

/-- the core model is handed the `follow` flag; in the code (and the extended model) it is a function of the type's name -/
def Consistent (p : Resolver.Prog) : Prop := ∀ fn ∈ p, ∀ ty ∈ fn.results, ty.follow = follows ty.name

/-- a consumer that, on plain alternatives, just collects -/
def PlainCollect (k : K) : Prop := ∀ r vs, r.kind = Kind.plain → k r vs = some ([r.res], vs)

theorem collect_plain : PlainCollect collect := fun _ _ _ => rfl

theorem post_plain {p : Prog} {rec : Rec} {retN : Nat} {body : List Stmt} {k : K} (hk : PlainCollect k) :
    PlainCollect (post p rec retN body k) := by
  intro r vs hr
  simp only [post, hr]
  exact hk r vs hr

def RecRel (p : Resolver.Prog) (rec : Resolver.Rec) (rec' : Rec) : Prop :=
  ∀ vs g a k, PlainCollect k → rec' vs g (nres (embed p) g) a k = rec vs g a

theorem embed_get (p : Resolver.Prog) (g : Nat) : (embed p)[g]? = (p[g]?).map embedFunc := by
  simp [embed]

theorem seq_done_left (b : Visits → Out) : seq done b = b := by
  funext vs
  simp only [seq, done]
  rcases b vs with _ | ⟨o, v⟩ <;> rfl

theorem argsAt_nil (p : Prog) (rec : Rec) (retN q : Nat) (perr : List Bool) (k : K) :
    argsAt p rec retN q .nil perr k = done :=
  rfl

theorem call_embed (p : Resolver.Prog) (hc : Consistent p) (rec : Resolver.Rec) (rec' : Rec) (hr : RecRel p rec rec')
    (retN q g ci : Nat) (k : K) (hk : PlainCollect k) (vs : Visits) :
    exprAt (embed p) rec' retN q (.call ⟨[], [], some g⟩ .nil) ci k vs = Resolver.callAt p rec vs g ci := by
  unfold exprAt Resolver.callAt
  simp only [sigRets, Option.bind_some, embed_get]
  cases hg : p[g]? with
  | none => rfl
  | some fn =>
    simp only [Option.map_some, embedFunc, List.getElem?_map]
    cases ht : fn.results[ci]? with
    | none => rfl
    | some ty =>
      simp only [Option.map_some, hc fn (List.mem_of_getElem? hg) ty (List.mem_of_getElem? ht)]
      cases follows ty.name with
      | false => exact hk _ vs rfl
      | true =>
        simp only [if_true, argsAt_nil, ite_self, seq_done_left]
        exact hr vs g ci k hk

theorem exprsAt_embed (p : Resolver.Prog) (hc : Consistent p) (rec : Resolver.Rec) (rec' : Rec) (hr : RecRel p rec rec')
    (retN q : Nat) (r : List Resolver.Expr) (n a : Nat) (k : K) (hk : PlainCollect k) (vs : Visits) :
    exprsAt (embed p) rec' retN q (r.map embedExpr) n a k vs = Resolver.exprsAt p rec vs r n a := by
  unfold exprsAt Resolver.exprsAt
  rw [List.length_map, List.head?_map, List.getElem?_map]
  split
  · rcases r.head? with _ | (v | t | g)
    · rfl
    · rfl
    · rfl
    · exact call_embed p hc rec rec' hr retN q g a k hk vs
  · rcases r[a]? with _ | (v | t | g)
    · rfl
    · exact hk ⟨.val v, .plain⟩ vs rfl
    · exact hk ⟨.ty t, .plain⟩ vs rfl
    · exact call_embed p hc rec rec' hr retN q g 0 k hk vs

theorem overReturns_append (p : Resolver.Prog) (rec : Resolver.Rec) (n a : Nat)
    (rs : List (List Resolver.Expr)) (vs : Visits) (acc acc' : List Res) :
    Resolver.overReturns p rec n a rs vs (acc ++ acc') =
      (Resolver.overReturns p rec n a rs vs acc').map fun x => (acc ++ x.1, x.2) := by
  fun_induction Resolver.overReturns p rec n a rs vs acc' with
  | case1 => rfl
  | case2 _ _ _ _ h => simp only [Resolver.overReturns, h, Option.map_none]
  | case3 _ _ _ _ _ _ h ih => simp only [Resolver.overReturns, h, ← ih, List.append_assoc]

theorem overReturns_acc (p : Resolver.Prog) (rec : Resolver.Rec) (n a : Nat) :
    ∀ (rs : List (List Resolver.Expr)) (vs : Visits) (acc : List Res),
      Resolver.overReturns p rec n a rs vs acc =
        (Resolver.overReturns p rec n a rs vs []).map fun x => (acc ++ x.1, x.2) := by
  intro rs vs acc
  have h := overReturns_append p rec n a rs vs acc []
  rwa [List.append_nil] at h

theorem stmtsAt_embed (p : Resolver.Prog) (hc : Consistent p) (rec : Resolver.Rec) (rec' : Rec) (hr : RecRel p rec rec')
    (retN : Nat) (fn : Func) (body : List Stmt) (a : Nat) (k : K) (hk : PlainCollect k) :
    ∀ (rs : List (List Resolver.Expr)) (vs : Visits),
      stmtsAt (embed p) rec' retN fn body a k (embedBody rs) vs = Resolver.overReturns p rec retN a rs vs []
  | [], vs => rfl
  | r :: rs, vs => by
    have ih := stmtsAt_embed p hc rec rec' hr retN fn body a k hk rs
    simp only [embedBody, List.map_cons, stmtsAt, seq, Resolver.overReturns] at ih ⊢
    rw [exprsAt_embed p hc rec rec' hr retN 0 r retN a _ (post_plain hk) vs]
    cases Resolver.exprsAt p rec vs r retN a with
    | none => rfl
    | some x =>
      obtain ⟨o, vs'⟩ := x
      simp only [ih vs', List.nil_append]
      rw [overReturns_acc p rec retN a rs vs' o]
      cases Resolver.overReturns p rec retN a rs vs' [] <;> rfl

theorem nres_embed {p : Resolver.Prog} {g : Nat} {fn : Resolver.Func} (hg : p[g]? = some fn) :
    nres (embed p) g = fn.results.length := by
  simp [nres, embed_get, hg, embedFunc]

/-- descents agree, for every amount of fuel -/
theorem funcAt_embed (p : Resolver.Prog) (hc : Consistent p) :
    ∀ fuel, RecRel p (Resolver.funcAt p true fuel) (funcAt (embed p) fuel)
  | 0 => fun _ _ _ _ _ => rfl
  | fuel + 1 => by
    intro vs g a k hk
    rw [funcAt, Resolver.funcAt, embed_get]
    cases hg : p[g]? with
    | none => rfl
    | some fn =>
      simp only [Option.map_some, embedFunc, List.length_map, nres_embed hg]
      rcases visited true vs g a fn.results.length with ⟨_ | _, vs'⟩
      · exact stmtsAt_embed p hc _ _ (funcAt_embed p hc fuel) fn.results.length _ _ a k hk fn.returns vs'
      · rfl

/-- conservative extension: on the core language the extended model and the (repaired) core
    model give the same answer — with the same fuel, diverging together -/
theorem resultsOf_embed (p : Resolver.Prog) (hc : Consistent p) (fuel g : Nat) :
    resultsOf (embed p) fuel g = Resolver.resultsOf p true fuel g := by
  unfold resultsOf Resolver.resultsOf
  rw [embed_get]
  cases hg : p[g]? with
  | none => rfl
  | some fn =>
    have hl : (embedFunc fn).results.length = fn.results.length := List.length_map ..
    have hstep : (fun vs a => funcAt (embed p) fuel vs g fn.results.length a collect) =
        fun vs a => Resolver.funcAt p true fuel vs g a := by
      funext vs a
      rw [← nres_embed hg]
      exact funcAt_embed p hc fuel vs g a collect collect_plain
    have hdflt : (fun a : Nat => Res.ty ((embedFunc fn).results[a]?.getD [])) =
        fun a => .ty ((fn.results[a]?.map (·.name)).getD []) := by
      funext a; simp [embedFunc]
    simp only [Option.map_some, resultsOfAux_eq, Resolver.resultsOfAux_eq, hl, hstep, hdflt]

#print axioms resultsOf_embed
end Gengo.Resolver2

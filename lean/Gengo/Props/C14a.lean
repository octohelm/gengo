import Gengo.Model.Resolver
/-!
C14, the pinned `visited` on `func R(n int) (int, error) { …; return R(n - 1) }`: resolving result 1 descends again
with the same table, so no amount of fuel gives an answer (`rec1_diverges`, F13a).  The repaired code resolves it.
-/
namespace Gengo.Resolver

def sInt : Str := ['i','n','t']
def sErr : Str := ['e','r','r','o','r']
def s0 : Str := ['0']
def sNil : Str := ['n','i','l']
def tInt : Ty := ⟨sInt, false⟩
def tErr : Ty := ⟨sErr, true⟩

/-- `func R(n int) (int, error) { if n == 0 { return 0, nil }; return R(n - 1) }` -/
def rec1 : Prog := [⟨[tInt, tErr], [[.lit s0, .lit sNil], [.call 0]]⟩]

/-- the visits map after result 0 of `R` has been resolved -/
def vs1 : Visits := [(0, [true, false])]

/-- one descent for result 1 from `vs1`: the entry exists, its mark is read as `false` and is
    not set, so the forwarding `return R(n-1)` descends again with the *same* visits. -/
theorem rec1_step (k : Nat) :
    funcAt rec1 false (k + 1) vs1 0 1 =
      match funcAt rec1 false k vs1 0 1 with
      | none => none
      | some (out, vs') => some ([Res.val sNil] ++ out, vs') := by
  rfl

theorem rec1_diverges_at1 : ∀ fuel, funcAt rec1 false fuel vs1 0 1 = none := by
  intro fuel
  induction fuel with
  | zero => rfl
  | succ k ih => rw [rec1_step, ih]

theorem rec1_at0 (k : Nat) :
    funcAt rec1 false (k + 1) [] 0 0 = some ([Res.val s0, Res.ty sInt], vs1) := by
  rfl

theorem rec1_diverges : ∀ fuel, resultsOf rec1 false fuel 0 = none := by
  intro fuel
  cases fuel with
  | zero => rfl
  | succ k =>
    show resultsOfAux rec1 false (k + 1) 0 _ [0, 1] [] [] = none
    simp only [resultsOfAux, rec1_at0, rec1_diverges_at1]

/-- repaired code: the same function resolves, with one alternatives list per result -/
example : resultsOf rec1 true 5 0 = some [[.val s0, .ty sInt], [.val sNil]] := by decide

/-- literal-only function: exactly the literal values per position, in source order -/
example :
    resultsOf [⟨[tInt, ⟨['s'], false⟩], [[.lit ['1'], .lit ['a']], [.lit ['3'], .lit ['b','c']]]⟩] true 3 0
      = some [[.val ['1'], .val ['3']], [.val ['a'], .val ['b','c']]] := by decide

#print axioms rec1_diverges
end Gengo.Resolver

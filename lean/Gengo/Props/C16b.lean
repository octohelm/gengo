import Gengo.Props.C16a
namespace Gengo.RuntimeDoc

/-! ### C16: the fuel of `runtimeDoc` is no restriction for acyclic embedding -/

theorem findSome?_ext {α β : Type} {l : List α} {f g : α → Option β} (h : ∀ x ∈ l, f x = g x) :
    l.findSome? f = l.findSome? g := by
  induction l with
  | nil => rfl
  | cons x xs ih =>
    rw [List.findSome?_cons, List.findSome?_cons, h x (List.mem_cons_self ..),
      ih fun y hy => h y (List.mem_cons_of_mem _ hy)]

/-- a promoted method's owner lies strictly below: its rank is bounded like the frontier's -/
theorem promotedOwner_rank (p : Pkg) (rank : Nat → Nat)
    (hacyc : ∀ id, ∀ t ∈ embeddedTargets p id, rank t < rank id) (r : Nat) :
    ∀ fuel frontier o, (∀ x ∈ frontier, rank x < r) → promotedOwner p fuel frontier = some o → rank o < r := by
  intro fuel frontier
  -- the clauses of `promotedOwner`: no fuel; one owner in the frontier; several; none and nothing below; none, one level down
  fun_induction promotedOwner p fuel frontier with
  | case1 | case3 | case4 => exact fun _ _ h => nomatch h
  | case2 _ _ owners o' ho =>
    intro o hf h
    cases h
    have : o' ∈ owners := ho ▸ List.mem_singleton_self o'
    exact hf o' (List.mem_filter.mp this).1
  | case5 _ _ _ _ _ _ ih =>
    intro o hf h
    refine ih o ?_ h
    intro y hy
    obtain ⟨x, hx, hyx⟩ := List.mem_flatMap.mp hy
    exact Nat.lt_trans (hacyc x y hyx) (hf x hx)

theorem embeds_target {ft : Bool} {p : Pkg} {id : Nat} {t : TypeD} {fields : List Field}
    (ht : p[id]? = some t) (hk : t.kind = .struct fields) {e : Option Nat × Str} (he : e ∈ embeds ft fields)
    {tid : Nat} (h1 : e.1 = some tid) : tid ∈ embeddedTargets p id := by
  simp only [embeddedTargets, ht, hk]
  obtain ⟨f, hf, hfe⟩ := List.mem_filterMap.mp he
  obtain ⟨hc, hfe⟩ := Option.ite_none_right_eq_some.mp hfe
  cases hfe
  exact List.mem_filterMap.mpr ⟨f, hf, by rw [if_pos (Bool.and_eq_true_iff.mp hc).1]; exact h1⟩

/-- fuel adequacy: with any rank function that decreases along same-package embedding (one
    exists iff embedding is acyclic, which Go's type checker enforces for by-value embedding and
    which the domain assumes for pointers), every amount of fuel above the rank gives the same
    answer.  So `runtimeDoc … fuel` with `fuel > rank id` *is* the generated method's result. -/
theorem runtimeDoc_fuel_stable (ft fs : Bool) (p : Pkg) (rank : Nat → Nat)
    (hacyc : ∀ id, ∀ t ∈ embeddedTargets p id, rank t < rank id) :
    ∀ fuel id names, rank id < fuel →
      runtimeDoc ft fs p fuel id names = runtimeDoc ft fs p (fuel + 1) id names := by
  intro fuel id names
  -- of the clauses of `runtimeDoc` two call it again, with one unit of fuel less: the promoted owner's method and the
  -- delegation to the embedded structs; in the others the answer does not depend on the fuel left
  fun_induction runtimeDoc ft fs p fuel id names with
  | case1 => exact fun h => nomatch h
  | case3 fuel id names t ht hc o ho ih =>
    intro h
    have := promotedOwner_rank p rank hacyc (rank id) _ _ o (hacyc id) ho
    rw [runtimeDoc]
    simp only [ht, hc, ho, if_true]
    exact ih (by omega)
  | case11 fuel id t ht hc fields hk n rest hl ih =>
    intro h
    rw [runtimeDoc]
    simp only [ht, hc, hk, hl]
    apply findSome?_ext
    intro e he
    cases h1 : e.1 with
    | none => rfl
    | some tid =>
      have := hacyc id tid (embeds_target ht hk he h1)
      simp only [ih tid (by omega)]
  | _ => intro _; simp [runtimeDoc, *]

theorem runtimeDoc_fuel_le {ft fs : Bool} {p : Pkg} {rank : Nat → Nat}
    (hacyc : ∀ id, ∀ t ∈ embeddedTargets p id, rank t < rank id) {id : Nat} {names : List Str}
    {fuel fuel' : Nat} (h : rank id < fuel) (hle : fuel ≤ fuel') :
    runtimeDoc ft fs p fuel' id names = runtimeDoc ft fs p fuel id names := by
  induction hle with
  | refl => rfl
  | step hle ih => exact (runtimeDoc_fuel_stable ft fs p rank hacyc _ id names (Nat.lt_of_lt_of_le h hle)).symm.trans ih

/-- any two sufficient amounts of fuel agree -/
theorem runtimeDoc_fuel_irrelevant (ft fs : Bool) (p : Pkg) (rank : Nat → Nat)
    (hacyc : ∀ id, ∀ t ∈ embeddedTargets p id, rank t < rank id) (id : Nat) (names : List Str) :
    ∀ k, runtimeDoc ft fs p (rank id + 1 + k) id names = runtimeDoc ft fs p (rank id + 1) id names :=
  fun k => runtimeDoc_fuel_le hacyc (Nat.lt_succ_self _) (Nat.le_add_right _ k)

/-- the form the driver uses: the harness presents the declarations in a topological order of
    embedding (a type only embeds types listed before it — a decidable condition on the encoded
    package, and one every acyclic package can be brought into), so `rank := id` works and the
    driver's fuel `p.length + 2` — like any larger amount — gives *the* answer for every declared type -/
theorem runtimeDoc_driver_fuel (ft fs : Bool) (p : Pkg)
    (htopo : ∀ id, ∀ t ∈ embeddedTargets p id, t < id) (id : Nat) (hid : id < p.length) (names : List Str) (k : Nat) :
    runtimeDoc ft fs p (p.length + 2 + k) id names = runtimeDoc ft fs p (id + 1) id names :=
  runtimeDoc_fuel_le (rank := fun i => i) htopo (Nat.lt_succ_self id)
    (Nat.le_add_right_of_le (Nat.le_add_right_of_le (Nat.succ_le_of_lt hid)))

#print axioms runtimeDoc_fuel_stable
end Gengo.RuntimeDoc

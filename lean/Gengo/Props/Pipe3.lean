import Gengo.Props.Pipe
/-!
C02, errors of a package run: which errors a generator run returns, that a generator or callback error is raised
before any file of the package is touched, and what the write phase has done when it ends without error.
-/
namespace Gengo.Pipeline
open Gengo.Tags

theorem dispatch_err (a : Args) (p : Pkg) (g : Gen) (ts : List TypeObj) :
    ∀ s e, dispatch a p g ts s = .error e → e = .generate g.name p.path := by
  induction ts with
  | nil => intro s e h; cases h
  | cons t ts ih =>
    intro s e h
    rw [dispatch_cons] at h
    split at h
    · exact ih _ _ h
    · split at h
      · cases h; rfl
      · exact ih _ _ h

/-- C02 `error_names`: an error out of a generator run names that generator and that package -/
theorem runGen_err (a : Args) (p : Pkg) (g : Gen) (e : Err) (h : runGen a p g = .error e) :
    e = .generate g.name p.path ∨ e = .deferred g.name p.path := by
  rw [runGen_eq] at h
  split at h
  · next hd => cases h; exact .inl (dispatch_err a p g _ _ _ hd)
  · split at h <;> cases h
    exact .inr rfl

/-- C02 `fail_keeps_own_file` (generator / deferred-callback errors): the package's files are not
    touched at all — the write phase is never reached. -/
theorem pkgExecute_gen_error (parses : Str → Bool) (order) (a : Args) (p : Pkg) (gens : List Gen)
    (g pk : Str) (h : (pkgExecute parses order a p gens).2 = some (.generate g pk) ∨
                      (pkgExecute parses order a p gens).2 = some (.deferred g pk)) :
    (pkgExecute parses order a p gens).1 = [] := by
  unfold pkgExecute at h ⊢
  cases hg : gather a p gens [] with
  | error e => rfl
  | ok ws =>
    -- the write phase ends without error or with a syntax error
    simp only [hg] at h
    rcases writes_cases parses a p (order ws) (p.goFiles.filter fun f => (a.base ++ ['.']).isPrefixOf f) []
      with hc | ⟨_, _, _, _, hc⟩ <;> rw [hc] at h <;> rcases h with h | h <;> cases h

/-- exact description of the write phase of a successful package run -/
theorem writes_spec (parses : Str → Bool) (a : Args) (p : Pkg) (ws : List (Str × Str)) :
    ∀ (stale : List Str) (eff : List Effect), (writes parses a p ws stale eff).2 = none →
      (writes parses a p ws stale eff).1 =
        eff ++ ((ws.filter fun w => !w.2.isEmpty).map fun w => Effect.write p.dir (fileName a.base w.1) w.1 w.2)
            ++ ((stale.filter fun f => !(ws.map fun w => fileName a.base w.1).contains f).map (Effect.remove p.dir ·)) := by
  intro stale eff h
  rcases writes_cases parses a p ws stale eff with hc | ⟨_, _, _, _, hc⟩ <;> rw [hc] at h ⊢
  cases h

#print axioms runGen_err
#print axioms pkgExecute_gen_error
#print axioms writes_spec
end Gengo.Pipeline

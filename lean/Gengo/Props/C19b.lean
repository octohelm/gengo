import Gengo.Props.C19
/-!
C19: what is built on `Split` — the case converters, the byte-level wrapper — is total because `Split` is.
-/
namespace Gengo.Camel

/-- C19: the six converters never fail (repaired `Split`), for every input, every Unicode
    classification and every word transformation -/
theorem makeCase_total (p : Preds) (linker : List Char) (trans) (dropWord) (s : List Char) :
    (makeCase p true linker trans dropWord s).isSome = true := by
  obtain ⟨ws, h, _, _⟩ := split_total_lossless p s
  simp [makeCase, h]

/-- C19: total on all byte strings; an invalid one comes back whole -/
theorem splitBytes_total (p : Preds) (decode) (bs : List UInt8) :
    (splitBytes p true decode bs).isSome = true ∧
    (decode bs = none → splitBytes p true decode bs = some (.inl [bs])) := by
  unfold splitBytes
  cases hd : decode bs with
  | none => simp
  | some s =>
    obtain ⟨ws, h, _, _⟩ := split_total_lossless p s
    simp [h]

end Gengo.Camel

import Gengo.Model.Locality
namespace Gengo.Locality

theorem mem_roots (ps : List P) (m : Path) :
    m ∈ roots ps ↔ ∃ q ∈ ps, q.matched = true ∧ q.modPath = some m := by
  simp only [roots, List.mem_filterMap, List.mem_filter, and_assoc]

/-- C07 / C08: what is local is decided by module membership — a package is local iff its module is the module
    of some matched package -/
theorem isLocal_iff (ps : List P) (p : P) :
    isLocal ps p = true ↔ ∃ m, p.modPath = some m ∧ ∃ q ∈ ps, q.matched = true ∧ q.modPath = some m := by
  unfold isLocal
  cases p.modPath with
  | none => simp
  | some m => simp only [List.contains_iff_mem, mem_roots, Option.some.injEq, exists_eq_left']

/-- a package of another module is never local, whatever its import path looks like — in
    particular a nested module whose path extends the main module's path -/
theorem foreign_not_local (ps : List P) (p : P) (m : Path) (hm : p.modPath = some m)
    (hf : ∀ q ∈ ps, q.matched = true → q.modPath ≠ some m) : isLocal ps p = false := by
  rw [Bool.eq_false_iff, Ne, isLocal_iff]
  rintro ⟨m', hm', q, hq, hqm, hqp⟩
  cases hm.symm.trans hm'
  exact hf q hq hqm hqp

/-- a package without module information is never local -/
theorem no_module_not_local (ps : List P) (p : P) (hm : p.modPath = none) : isLocal ps p = false := by
  simp [isLocal, hm]

/-- every matched package with a module is local and direct -/
theorem matched_local (ps : List P) (p : P) (hp : p ∈ ps) (hm : p.matched = true) (m : Path) (hmod : p.modPath = some m) :
    (p.pkgPath, true) ∈ locals ps := by
  simp only [locals, List.mem_map, List.mem_filter]
  refine ⟨p, ⟨hp, (isLocal_iff ps p).mpr ⟨m, hmod, p, hp, hm, hmod⟩⟩, by simp [hm]⟩

/-- the decision does not depend on the order in which go/packages hands the packages over -/
theorem isLocal_perm {ps qs : List P} (h : ps.Perm qs) (p : P) : isLocal ps p = isLocal qs p :=
  Bool.eq_iff_iff.mpr (by simp only [isLocal_iff, h.mem_iff])

theorem locals_perm {ps qs : List P} (h : ps.Perm qs) : (locals ps).Perm (locals qs) := by
  unfold locals
  rw [funext (isLocal_perm h)]
  exact (h.filter _).map _

-- the main module m with a nested module m/sub: m/sub/p is loaded as a dependency and is not local
example :
    let m : Path := ["example.com".toList, "m".toList]
    let sub : Path := m ++ ["sub".toList]
    let ps : List P := [⟨m ++ ["a".toList], some m, true⟩, ⟨sub ++ ["p".toList], some sub, false⟩, ⟨["fmt".toList], none, false⟩]
    locals ps = [(m ++ ["a".toList], true)] := by
  simp only [String.reduceToList]; decide

#print axioms foreign_not_local
#print axioms locals_perm
end Gengo.Locality

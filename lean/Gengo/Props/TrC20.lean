import Gengo.Gen.Code.C20
import Gengo.Model.Inflect
import Gengo.Props.C20c
import Gengo.Props.GoRtLemmas
/-!
`(*Rule).inflected` of pkg/inflector/internal/rule.go as translated (`Gengo.Code.inflected`) against the model of
its irregular-word step (`Gengo.Inflect.irregular c true`).  What the translation leaves abstract is the regular
expression engine: `findSub` stands for `compiledIrregular.FindStringSubmatch`, `unMatch` for
`compiledUninflected.MatchString`, `ruleMatch` / `ruleRepl` for the `MatchString` / `ReplaceAllString` of one compiled
rule.  `findSubOf c` is what the model says `FindStringSubmatch` returns for `(?is)(.*)\b((?:w1|w2|…))$`.
-/
namespace Gengo.TrC20
open Gengo Gengo.Go Gengo.Inflect

/-- the submatches the model ascribes to `compiledIrregular.FindStringSubmatch(s)`: none, or whole match, prefix, word -/
def findSubOf (c : Cfg) (s : Str) : List Str :=
  match find c s with
  | none => []
  | some (pre, w) => [s, pre, w]

/-- the part of `inflected` after the irregular step: uninflected words stay, the first matching rule rewrites -/
def rulesStep (unMatch : Str → Bool) (rules : List (Str × Str)) (ruleMatch : (Str × Str) → Str → Bool)
    (ruleRepl : (Str × Str) → Str → Str) (s : Str) : Str :=
  if unMatch s then s else
  match rules.find? (fun re => ruleMatch re s) with
  | some re => ruleRepl re s
  | none => s

theorem mapHas_lookup (m : List (Str × Str)) (k : Str) : Go.mapHas m k = (m.lookup k).isSome :=
  GoRtLemmas.mapHas_lookup m k

theorem mapGet_lookup (m : List (Str × Str)) (k : Str) : Go.mapGet m k [] = (m.lookup k).getD [] :=
  GoRtLemmas.mapGet_lookup m k []

theorem findAux_nonempty (c : Cfg) (pre s : Str) (best : Option (Str × Str))
    (hb : ∀ p w, best = some (p, w) → w ≠ []) :
    ∀ p w, findAux c pre s best = some (p, w) → w ≠ [] := by
  induction s generalizing pre best with
  | nil => exact hb
  | cons x rest ih =>
    refine ih _ _ fun p' w' h' => ?_
    split at h'
    · cases h'; exact List.cons_ne_nil _ _
    · exact hb p' w' h'

theorem find_nonempty (c : Cfg) (s pre w : Str) (h : find c s = some (pre, w)) : w ≠ [] :=
  findAux_nonempty c [] s none (fun _ _ h => nomatch h) pre w h

theorem loop1_eq (findSub irr toLower unMatch rules ruleMatch ruleRepl) (s : Str) (l : List (Str × Str)) :
    Code.inflected.loop1 findSub irr toLower unMatch rules ruleMatch ruleRepl s l
      = pure (match l.find? (fun re => ruleMatch re s) with
              | some re => .ret (ruleRepl re s)
              | none => .next ()) := by
  induction l with
  | nil => rfl
  | cons re rest ih =>
    rw [Code.inflected.loop1, List.find?_cons, ih]
    cases ruleMatch re s <;> rfl

/-- one rule loop in the Go code, behind the irregular step, which can return: the translation takes what follows such
    an `if` into both of its arms, so the loop is translated twice (as in `TrC03.loop2_eq_loop1`) -/
theorem loop2_eq_loop1 (findSub irr toLower unMatch rules ruleMatch ruleRepl) (s : Str) (l : List (Str × Str)) :
    Code.inflected.loop2 findSub irr toLower unMatch rules ruleMatch ruleRepl s l
      = Code.inflected.loop1 findSub irr toLower unMatch rules ruleMatch ruleRepl s l := by
  induction l with
  | nil => rfl
  | cons re rest ih => rw [Code.inflected.loop1, Code.inflected.loop2, ih]

theorem loop2_eq (findSub irr toLower unMatch rules ruleMatch ruleRepl) (s : Str) (l : List (Str × Str)) :
    Code.inflected.loop2 findSub irr toLower unMatch rules ruleMatch ruleRepl s l
      = pure (match l.find? (fun re => ruleMatch re s) with
              | some re => .ret (ruleRepl re s)
              | none => .next ()) := by
  rw [loop2_eq_loop1, loop1_eq]

/-- what `inflected` does when the irregular step does not apply.  `k` stands for the `match` that ends the rule loop:
    written with a `match` of its own the lemma would not apply, every definition having its own compiled matcher. -/
theorem rules_tail {findSub irr toLower unMatch rules ruleMatch ruleRepl} (s : Str) (k : Ctl Unit Str → M Str)
    (hret : ∀ r, k (.ret r) = pure r) (hnext : k (.next ()) = pure s) :
    (if unMatch s = true then pure s else
      Code.inflected.loop1 findSub irr toLower unMatch rules ruleMatch ruleRepl s rules >>= k)
      = pure (rulesStep unMatch rules ruleMatch ruleRepl s) := by
  rw [loop1_eq, pure_bind, rulesStep]
  cases unMatch s <;> cases rules.find? (fun re => ruleMatch re s) <;> simp [hret, hnext]

/-- the translated `inflected` is the model's irregular step followed by the rule table, for every input string,
    every regular-expression table and every irregular map whose replacements are non-empty (for an empty
    replacement the code's `replacement[1:]` panics, and so does the translated code: the hypothesis is needed). -/
theorem inflected_eq (c : Cfg) (hrepl : ∀ k v, c.table.lookup k = some v → v ≠ [])
    (unMatch : Str → Bool) (rules : List (Str × Str)) (ruleMatch : (Str × Str) → Str → Bool)
    (ruleRepl : (Str × Str) → Str → Str) (s : Str) :
    Code.inflected (findSubOf c) c.table (fun w => w.map c.lower) unMatch rules ruleMatch ruleRepl s
      = pure (match irregular c true s with
              | .ok r => r
              | _ => rulesStep unMatch rules ruleMatch ruleRepl s) := by
  unfold Code.inflected
  -- the rule step stands twice, for no submatch and for no table entry: both copies are rewritten here
  rw [loop2_eq_loop1, rules_tail s _ ?_ ?_]
  · cases hf : find c s with
    | none =>
      rw [findSubOf, hf, irregular, irregular2, if_pos rfl, hf]
      rfl
    | some pw =>
      obtain ⟨pre, w⟩ := pw
      obtain ⟨a, w', rfl⟩ := List.exists_cons_of_ne_nil (find_nonempty c s pre _ hf)
      have h3 : Go.len [s, pre, a :: w'] ≥ 3 := by simp [Go.len]
      rw [irregular_of_find hf, findSubOf, hf]
      simp only [h3, decide_true, if_true, show Go.idx [s, pre, a :: w'] 2 = pure (a :: w') from rfl,
        show Go.idx [s, pre, a :: w'] 1 = pure pre from rfl, pure_bind, mapHas_lookup, mapGet_lookup]
      cases hl : c.table.lookup ((a :: w').map c.lower) with
      | none => rfl
      | some repl =>
        obtain ⟨b, r', rfl⟩ := List.exists_cons_of_ne_nil (hrepl _ _ hl)
        have h01 : Go.slice (a :: w') 0 1 = pure [a] := GoRtLemmas.slice_to (a :: w') 1 (Nat.le_add_left ..)
        simp only [Option.isSome_some, if_true, Option.getD_some, h01, GoRtLemmas.slice_tail, pure_bind]
        rfl
  · exact fun _ => rfl
  · rfl

/-- C20 "never panics", of the translated code: whatever the regular-expression engine answers for the
    uninflected list and the rule table, the translated `inflected` returns a string — it neither panics
    (`Err.panic`: an index or slice out of range) nor runs out of fuel. -/
theorem code_inflected_total (c : Cfg) (hrepl : ∀ k v, c.table.lookup k = some v → v ≠ [])
    (unMatch : Str → Bool) (rules : List (Str × Str)) (ruleMatch : (Str × Str) → Str → Bool)
    (ruleRepl : (Str × Str) → Str → Str) (s : Str) :
    ∃ r, Code.inflected (findSubOf c) c.table (fun w => w.map c.lower) unMatch rules ruleMatch ruleRepl s = .ok r := by
  rw [inflected_eq c hrepl]
  exact ⟨_, rfl⟩

/-- C20 "only the last word is rewritten", of the translated code: for every prefix `p` that ends in a word
    boundary and every spelling `w` of an irregular word, the translated `inflected` returns `p`, the first letter of
    `w` as written, and the tail of the table replacement — whatever the rule table holds. -/
theorem code_inflected_last_word (c : Cfg) (hrepl : ∀ k v, c.table.lookup k = some v → v ≠ [])
    (unMatch : Str → Bool) (rules : List (Str × Str)) (ruleMatch : (Str × Str) → Str → Bool)
    (ruleRepl : (Str × Str) → Str → Str)
    (p w repl : Str) (hw : w ≠ []) (hword : ∀ x ∈ w, c.isWord x = true)
    (hb : boundary c p w = true) (hm : matchesTable c w = true)
    (hl : c.table.lookup (w.map c.lower) = some repl) :
    Code.inflected (findSubOf c) c.table (fun w => w.map c.lower) unMatch rules ruleMatch ruleRepl (p ++ w)
      = .ok (p ++ w.take 1 ++ repl.drop 1) := by
  rw [inflected_eq c hrepl, irregular_spelled c p w repl hw hword hb hm hl]
  rfl

/-- the hypothesis on the replacements holds for a table whose entries all have a non-empty replacement -/
theorem repl_nonempty_of_all (t : List (Str × Str)) (h : t.all (fun e => !e.2.isEmpty) = true) :
    ∀ k v, t.lookup k = some v → v ≠ [] := by
  intro k v hk hv
  have := List.all_eq_true.mp h (k, v) (Assoc.mem_of_lookup hk)
  simp [hv] at this

/-- … which the two irregular maps regenerated from rules.go are (kernel evaluation over the whole tables) -/
theorem plural_repl_nonempty : ∀ k v, irregularPlural.lookup k = some v → v ≠ [] :=
  repl_nonempty_of_all _ (by decide)
theorem singular_repl_nonempty : ∀ k v, irregularSingular.lookup k = some v → v ≠ [] :=
  repl_nonempty_of_all _ (by decide)

/-- the translated `inflected` over the regenerated plural map returns for every string, every folding relation,
    every lower-casing and every answer of the regular-expression engine about the other tables -/
theorem code_plural_total (foldEq : Char → Char → Bool) (lower : Char → Char) (isWord : Char → Bool)
    (unMatch : Str → Bool) (rules : List (Str × Str)) (ruleMatch : (Str × Str) → Str → Bool)
    (ruleRepl : (Str × Str) → Str → Str) (s : Str) :
    ∃ r, Code.inflected (findSubOf ⟨irregularPlural, foldEq, lower, isWord⟩) irregularPlural (fun w => w.map lower)
      unMatch rules ruleMatch ruleRepl s = .ok r :=
  code_inflected_total ⟨irregularPlural, foldEq, lower, isWord⟩ plural_repl_nonempty unMatch rules ruleMatch ruleRepl s

theorem code_singular_total (foldEq : Char → Char → Bool) (lower : Char → Char) (isWord : Char → Bool)
    (unMatch : Str → Bool) (rules : List (Str × Str)) (ruleMatch : (Str × Str) → Str → Bool)
    (ruleRepl : (Str × Str) → Str → Str) (s : Str) :
    ∃ r, Code.inflected (findSubOf ⟨irregularSingular, foldEq, lower, isWord⟩) irregularSingular (fun w => w.map lower)
      unMatch rules ruleMatch ruleRepl s = .ok r :=
  code_inflected_total ⟨irregularSingular, foldEq, lower, isWord⟩ singular_repl_nonempty unMatch rules ruleMatch ruleRepl s

/-- the premises are met: the regenerated plural table of rules.go, `person` after `old-` -/
example : Code.inflected (findSubOf goCfg) goCfg.table (fun w => w.map goCfg.lower) (fun _ => false) [] (fun _ _ => false)
    (fun _ s => s) "old-Person".toList = .ok "old-People".toList := by
  simp only [String.reduceToList]; rfl
/-- the long s folds to `s` in the regular expression and not under `strings.ToLower`: the lookup fails and the code
    goes on to the rule table (the repaired F3; without the `ok` test the translated code is `Err.panic` here) -/
example : Code.inflected (findSubOf goCfg) goCfg.table (fun w => w.map goCfg.lower) (fun _ => false) [] (fun _ _ => false)
    (fun _ s => s) "perſon".toList = .ok "perſon".toList := by
  simp only [String.reduceToList]; rfl

#print axioms inflected_eq
#print axioms code_inflected_total
#print axioms code_plural_total
#print axioms code_singular_total
#print axioms code_inflected_last_word
end Gengo.TrC20

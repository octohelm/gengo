import Gengo.Model.Tags
/-!
C12, tag extraction (`Model/Tags`): `splitKV` loses nothing; `ExtractCommentTags` puts every line in exactly one place,
keeps the order of the other lines, and takes a line for a tag exactly when, trimmed, it starts with a marker.
-/
namespace Gengo.Tags

/-- `splitKV` is lossless: the key, the first separator (if any) and the value rebuild the line -/
theorem splitKV_spec (l : Str) :
    (∀ c ∈ (splitKV l).1, c ≠ '=' ∧ c ≠ ' ') ∧
    (l = (splitKV l).1 ∧ (splitKV l).2 = [] ∨
     ∃ sep, (sep = '=' ∨ sep = ' ') ∧ l = (splitKV l).1 ++ sep :: (splitKV l).2) := by
  fun_induction splitKV l with
  | case1 => exact ⟨fun _ h => (nomatch h), .inl ⟨rfl, rfl⟩⟩
  | case2 c cs hc => exact ⟨fun _ h => (nomatch h), .inr ⟨c, by simpa using hc, rfl⟩⟩
  | case3 c cs hc ih =>
    refine ⟨List.forall_mem_cons.mpr ⟨by simpa using hc, ih.1⟩, ?_⟩
    rcases ih.2 with ⟨h1, h2⟩ | ⟨sep, hs, h⟩
    · exact .inl ⟨congrArg (c :: ·) h1, h2⟩
    · exact .inr ⟨sep, hs, congrArg (c :: ·) h⟩

/-- total number of values stored in the tag map -/
def nvalues (m : List (Str × List Str)) : Nat := (m.map (·.2.length)).sum

theorem nvalues_addTag (m : List (Str × List Str)) (k v : Str) : nvalues (addTag m k v) = nvalues m + 1 := by
  fun_induction addTag m k v with
  | case1 => rfl
  | case2 vs rest =>
    simp only [nvalues, List.map_cons, List.sum_cons, List.length_append, List.length_singleton]; omega
  | case3 k' vs rest h ih => simp only [nvalues, List.map_cons, List.sum_cons] at ih ⊢; omega

/-- C12 `classify_once`: every line is classified exactly once — it is either one of the
    remaining lines or one value in the tag map. -/
theorem classify_once (markers : List Char) (lines : List Str) :
    ∀ (m : List (Str × List Str)) (o : List Str),
      nvalues (extractAux markers lines (m, o)).1 + (extractAux markers lines (m, o)).2.length
        = nvalues m + o.length + lines.length := by
  induction lines with
  | nil => intro m o; simp [extractAux]
  | cons l ls ih =>
    intro m o
    rw [extractAux, List.length_cons]
    cases classify markers l with
    | other t => rw [ih, List.length_append, List.length_singleton]; omega
    | tag k v => rw [ih, nvalues_addTag]; omega

/-- the remaining lines are the non-tag lines, trimmed, in their original order -/
theorem others_spec (markers : List Char) (lines : List Str) :
    ∀ (m : List (Str × List Str)) (o : List Str),
      (extractAux markers lines (m, o)).2 =
        o ++ lines.filterMap fun l => match classify markers l with
          | .other t => some t
          | .tag _ _ => none := by
  induction lines with
  | nil => intro m o; simp [extractAux]
  | cons l ls ih =>
    intro m o
    rw [extractAux, List.filterMap_cons]
    cases classify markers l with
    | other t => rw [ih, List.append_assoc]; rfl
    | tag k v => exact ih _ _

/-- C12 `tag_iff`: a line is a tag iff, after trimming spaces, it starts with a marker -/
theorem tag_iff (markers : List Char) (l : Str) :
    (∃ k v, classify markers l = .tag k v) ↔ ∃ c cs, trimSpaces l = c :: cs ∧ c ∈ markers := by
  unfold classify
  cases trimSpaces l with
  | nil => simp
  | cons c cs => by_cases hm : c ∈ markers <;> simp [hm]

example : extract ['+', '@'] ["Human comment.".toList, "+gengo:test=value1".toList, "@bar".toList,
    "+baz=qux,zrb=true".toList, "  +gengo:test value2 ".toList]
  = ([("gengo:test".toList, ["value1".toList, "value2".toList]), ("bar".toList, [[]]),
      ("baz".toList, ["qux,zrb=true".toList])], ["Human comment.".toList]) := by
  simp only [String.reduceToList]; decide

#print axioms classify_once
end Gengo.Tags

import Gengo.Props.TrC03b
import Gengo.Props.TrC19b
/-!
C03, tie by translation, third part: `toLocalName` (pkg/namer/import_tracker.go) as translated, with
`camelcase.LowerCamelCase` read as the translated `makeCase` with the empty linker (`Props/TrC19b`).  Because that
converter returns for every input (`code_makeCase_total`), `toLocalName` is a total function — the hypothesis `hLN` of
`TrC03b.trackerAdd_eq` / `code_add_refines` — and the translated `add` with the translated `toLocalName` inside refines
the model with no assumption left about how candidate names are computed.
-/
namespace Gengo.TrC03c
open Gengo Gengo.Go Gengo.Tracker Gengo.TrC03b

/-- `toLocalName` over the translated converter -/
def toLN (p : Go.Preds) (trans : Str → Int → Str) (oneGraphic : Str → Bool) (notAlnum : Char → Bool)
    (strToLower : Str → Str) : List Str → M Str :=
  Code.toLocalName (fun l => Code.makeCase p trans oneGraphic notAlnum [] (l.headD [])) strToLower

/-- `toLN` as a function: the name it returns (`[]` where the converter failed, which by `toLN_total` it never does) -/
def lnOf (p : Go.Preds) (trans : Str → Int → Str) (oneGraphic : Str → Bool) (notAlnum : Char → Bool)
    (strToLower : Str → Str) (ps : List Str) : Str :=
  match Code.makeCase p trans oneGraphic notAlnum [] (Go.strJoin ps []) with
  | .ok r => strToLower r
  | .error _ => []

/-- the translated `toLocalName` returns for every list of segments -/
theorem toLN_total (p : Go.Preds) (trans oneGraphic notAlnum strToLower) (ps : List Str) :
    toLN p trans oneGraphic notAlnum strToLower ps = pure (lnOf p trans oneGraphic notAlnum strToLower ps) := by
  obtain ⟨r, hr⟩ := TrC19b.code_makeCase_total p trans oneGraphic notAlnum [] (Go.strJoin ps [])
  simp only [toLN, Code.toLocalName, lnOf, List.headD_cons, hr]
  rfl

/-- C03, of the translated code, candidates included: `add` with the translated `toLocalName` and converter inside
    returns, and the tracker it leaves answers every lookup like the model's -/
theorem code_add_refines_full (p : Go.Preds) (trans : Str → Int → Str) (oneGraphic : Str → Bool) (notAlnum : Char → Bool)
    (strToLower : Str → Str) (isIdent : Str → Bool) (stdMap : List (Str × Str)) (sanitize : Str → Str)
    (needsPkg : Str → Bool) (itoa : Int → Str) (t : Tracker) (path : Str)
    (hok : FallbackOK (cfgFor (lnOf p trans oneGraphic notAlnum strToLower) isIdent stdMap sanitize needsPkg itoa path)) :
    ∃ r, Code.trackerAdd (toLN p trans oneGraphic notAlnum strToLower) isIdent stdMap sanitize needsPkg itoa
        (t.n2p.length + (cfgFor (lnOf p trans oneGraphic notAlnum strToLower) isIdent stdMap sanitize needsPkg itoa path).stdNames.length + 1)
        t path = .ok r ∧
      LookupEq r (add (cfgFor (lnOf p trans oneGraphic notAlnum strToLower) isIdent stdMap sanitize needsPkg itoa path) t path) :=
  code_add_refines _ _ (toLN_total p trans oneGraphic notAlnum strToLower) isIdent stdMap sanitize needsPkg itoa t path hok

#print axioms toLN_total
#print axioms code_add_refines_full
end Gengo.TrC03c

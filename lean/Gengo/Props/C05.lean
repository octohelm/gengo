import Gengo.Props.Pipe2
import Gengo.Props.Pipe3
namespace Gengo.Pipeline

def inDir (d : Str) (e : Effect) : Bool :=
  match e.target with
  | some (d', _) => d' == d
  | none => false

theorem pkgExecute_inDir {parses : Str → Bool} {order} {a : Args} {p : Pkg} {gens : List Gen} {e : Effect}
    (he : e ∈ (pkgExecute parses order a p gens).1) (d : Str) : inDir d e = (p.dir == d) := by
  rcases pkgExecute_mem he with ⟨_, _, rfl⟩ | ⟨_, _, rfl⟩ <;> rfl

theorem filter_inDir_eq_nil {parses : Str → Bool} {order} {a : Args} {gens : List Gen} {d : Str} {l : List Pkg}
    (h : ∀ q ∈ l, q.dir ≠ d) :
    (l.flatMap fun q => (pkgExecute parses order a q gens).1).filter (inDir d) = [] := by
  rw [List.filter_eq_nil_iff]
  intro e he
  obtain ⟨q, hq, heq⟩ := List.mem_flatMap.mp he
  simp [pkgExecute_inDir heq, h q hq]

theorem filter_inDir_eq_self {parses : Str → Bool} {order} {a : Args} {gens : List Gen} {p : Pkg} :
    (pkgExecute parses order a p gens).1.filter (inDir p.dir) = (pkgExecute parses order a p gens).1 := by
  rw [List.filter_eq_self]
  intro e he
  simp [pkgExecute_inDir he]

theorem filter_inDir_flatMap {parses : Str → Bool} {order} {a : Args} {gens : List Gen} {p : Pkg} {l : List Pkg}
    (hd : l.Pairwise fun x y => x.dir ≠ y.dir) (hp : p ∈ l) :
    (l.flatMap fun q => (pkgExecute parses order a q gens).1).filter (inDir p.dir)
      = (pkgExecute parses order a p gens).1 := by
  -- what stands before and after `p` in `l` lies in other directories
  obtain ⟨l₁, l₂, rfl⟩ := List.append_of_mem hp
  rw [List.pairwise_append, List.pairwise_cons] at hd
  rw [List.flatMap_append, List.flatMap_cons, List.filter_append, List.filter_append, filter_inDir_eq_self,
    filter_inDir_eq_nil (l := l₁) fun q hq => hd.2.2 q hq p List.mem_cons_self,
    filter_inDir_eq_nil (l := l₂) fun q hq => (hd.2.1.1 q hq).symm, List.nil_append, List.append_nil]

/-- C05 `pkg_independent`: in a run that returns no error, what happens inside the directory
    of a processed package `p` is exactly `p`'s own trace — an expression in `p`, the arguments and
    the generator prototypes in which the rest of the universe does not occur.  So the files of `p`
    are the same whether `p` is generated alone or together with any other packages (given that
    packages live in distinct directories). -/
theorem pkg_independent (parses : Str → Bool) (order) (a : Args) (root : Str) (prevSum) (pkgs : List Pkg)
    (gens : List Gen) (p : Pkg)
    (hd : pkgs.Pairwise fun x y => x.dir ≠ y.dir) (hp : p ∈ pkgs)
    (hproc : processed a (if a.all then prevSum else none) p = true)
    (hok : (execute parses order a root prevSum pkgs gens).2 = none) :
    (execute parses order a root prevSum pkgs gens).1.filter (inDir p.dir)
      = (pkgExecute parses order a p gens).1 := by
  unfold execute at hok ⊢
  rw [goPkgs_decomp _ _ _ _ _ _ _ _ _ hok]
  simp only [List.nil_append, List.filter_append]
  have hperm : (sortedPkgs pkgs).Perm pkgs := perm_sortBy _ _
  rw [filter_inDir_flatMap (((hperm.pairwise_iff Ne.symm).mpr hd).filter _)
    (List.mem_filter.mpr ⟨hperm.mem_iff.mpr hp, hproc⟩)]
  -- what is left is the sum file under `All`, which lies in no directory
  split <;> simp [inDir, Effect.target]

/-- two different universes containing the same package record: same files for it -/
theorem alone_or_together (parses : Str → Bool) (order) (a : Args) (root₁ root₂ : Str) (prev₁ prev₂)
    (pkgs₁ pkgs₂ : List Pkg) (gens : List Gen) (p : Pkg)
    (hd₁ : pkgs₁.Pairwise fun x y => x.dir ≠ y.dir) (hd₂ : pkgs₂.Pairwise fun x y => x.dir ≠ y.dir)
    (hp₁ : p ∈ pkgs₁) (hp₂ : p ∈ pkgs₂)
    (h₁ : processed a (if a.all then prev₁ else none) p = true)
    (h₂ : processed a (if a.all then prev₂ else none) p = true)
    (ok₁ : (execute parses order a root₁ prev₁ pkgs₁ gens).2 = none)
    (ok₂ : (execute parses order a root₂ prev₂ pkgs₂ gens).2 = none) :
    (execute parses order a root₁ prev₁ pkgs₁ gens).1.filter (inDir p.dir)
      = (execute parses order a root₂ prev₂ pkgs₂ gens).1.filter (inDir p.dir) := by
  rw [pkg_independent _ _ _ _ _ _ _ p hd₁ hp₁ h₁ ok₁, pkg_independent _ _ _ _ _ _ _ p hd₂ hp₂ h₂ ok₂]

/-- C07 `unselected_untouched`: whatever the run does (success or not is irrelevant for a
    package's own trace), a package run never touches a file whose name does not start with
    `<OutputFileBaseName>.` or that lies outside the package's directory. -/
theorem unselected_untouched (parses : Str → Bool) (order) (a : Args) (p : Pkg) (gens : List Gen)
    (d n : Str) (e : Effect) (he : e ∈ (pkgExecute parses order a p gens).1) (ht : e.target = some (d, n)) :
    d = p.dir ∧ (a.base ++ ['.']).isPrefixOf n = true :=
  pkgExecute_own parses order a p gens e he d n ht

/-- C07 `exists_iff_rendered`: after a package run without error there is a gathered list
    `ws` of (generator, text) — one entry per generator that rendered something or asked to be
    kept — such that the effects are exactly: one write per entry with non-empty text, then one
    removal per previously generated `<base>.*` file that no entry names. -/
theorem exists_iff_rendered (parses : Str → Bool) (order) (a : Args) (p : Pkg) (gens : List Gen)
    (hok : (pkgExecute parses order a p gens).2 = none) :
    ∃ ws, gather a p gens [] = .ok ws ∧
      (pkgExecute parses order a p gens).1 =
        (((order ws).filter fun w => !w.2.isEmpty).map fun w => Effect.write p.dir (fileName a.base w.1) w.1 w.2) ++
        (((p.goFiles.filter fun f => (a.base ++ ['.']).isPrefixOf f).filter
            fun f => !((order ws).map fun w => fileName a.base w.1).contains f).map (Effect.remove p.dir ·)) := by
  unfold pkgExecute at hok ⊢
  cases hg : gather a p gens [] with
  | error e => simp [hg] at hok
  | ok ws =>
    refine ⟨ws, rfl, ?_⟩
    simp only [hg] at hok ⊢
    rw [writes_spec parses a p (order ws) _ [] hok, List.nil_append]

#print axioms pkg_independent
#print axioms exists_iff_rendered
end Gengo.Pipeline

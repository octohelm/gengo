import Gengo.Props.C14c
namespace Gengo.Resolver

/-! ### C14 `literal_exact` for the whole of `ResultsOf` -/

/-- the visits table marks exactly the positions in `done` for function `f` -/
def MarkedExactly (vs : Visits) (f n : Nat) (done : List Nat) : Prop :=
  (done = [] ∧ vs.lookup f = none) ∨
  (∃ marks, vs.lookup f = some marks ∧ marks.length = n ∧ ∀ i, i < n → marks.getD i false = decide (i ∈ done))

theorem MarkedExactly.marks {vs : Visits} {f n : Nat} {done : List Nat} (h : MarkedExactly vs f n done) :
    (marksOf vs f n).length = n ∧ ∀ i, i < n → (marksOf vs f n).getD i false = decide (i ∈ done) := by
  unfold marksOf
  rcases h with ⟨rfl, hl⟩ | ⟨marks, hl, hlen, hm⟩
  · rw [hl]; exact ⟨List.length_replicate, fun i _ => getD_replicate_false n i⟩
  · rw [hl]; exact ⟨hlen, hm⟩

theorem visited_unmarked (vs : Visits) (f a n : Nat) (done : List Nat) (ha : a < n) (hnd : a ∉ done)
    (h : MarkedExactly vs f n done) :
    (visited true vs f a n).1 = false ∧ MarkedExactly (visited true vs f a n).2 f n (a :: done) := by
  obtain ⟨hlen, hm⟩ := h.marks
  have hfa : ¬ marked vs f a = true := by rw [marked_eq_getD_marksOf vs f a n, hm a ha]; simpa using hnd
  rw [visited_true, if_neg hfa]
  refine ⟨rfl, Or.inr ⟨_, by rw [lookup_setMark, if_pos rfl], by rw [List.length_set, hlen], fun i hi => ?_⟩⟩
  rw [getD_set _ a i (hlen.symm ▸ ha), hm i hi]
  by_cases hia : i = a <;> simp [hia]

/-- the loop over the positions of a function whose descents, from an unmarked position, report
    `lits a` and leave the table as `visited` left it -/
theorem collectAux_exact {step : Visits → Nat → Option (List Res × Visits)} {dflt : Nat → Res} {f n : Nat}
    {lits : Nat → List Res}
    (hstep : ∀ a, a < n → ∀ vs, (visited true vs f a n).1 = false →
      step vs a = some (lits a, (visited true vs f a n).2))
    (as done : List Nat) (vs : Visits) (acc : List (List Res)) (hm : MarkedExactly vs f n done)
    (hall : ∀ a ∈ as, a < n ∧ a ∉ done) (hnd : as.Nodup) :
    collectAux step dflt as vs acc =
      some (acc ++ as.map fun a => if (lits a).isEmpty then [dflt a] else lits a) := by
  induction as generalizing done vs acc with
  | nil => rw [collectAux, List.map_nil, List.append_nil]
  | cons a as ih =>
    obtain ⟨⟨ha, hd⟩, hall'⟩ := List.forall_mem_cons.mp hall
    obtain ⟨hna, hnd'⟩ := List.nodup_cons.mp hnd
    obtain ⟨hun, hm'⟩ := visited_unmarked vs f a n done ha hd hm
    simp only [collectAux, hstep a ha vs hun]
    rw [ih (a :: done) _ _ hm' ?_ hnd', List.append_assoc]
    · rfl
    · exact fun b hb =>
        ⟨(hall' b hb).1, List.not_mem_cons_of_ne_of_not_mem (fun e => hna (e ▸ hb)) (hall' b hb).2⟩

/-- what `ResultsOf` reports for position `a` of a literal-only function -/
def expected (fn : Func) (a : Nat) : List Res :=
  let l := fn.returns.flatMap (litAt · a)
  if l.isEmpty then [Res.ty ((fn.results[a]?.map (·.name)).getD [])] else l

theorem resultsOfAux_literal (p : Prog) (fuel f : Nat) (fn : Func) (hfn : p[f]? = some fn) (hl : LiteralOnly fn) :
    ∀ (as done : List Nat) (vs : Visits) (acc : List (List Res)),
      MarkedExactly vs f fn.results.length done → (∀ a ∈ as, a < fn.results.length ∧ a ∉ done) → as.Nodup →
      resultsOfAux p true (fuel + 1) f fn as vs acc = some (acc ++ as.map (expected fn)) := by
  intro as done vs acc
  rw [resultsOfAux_eq]
  exact collectAux_exact (fun a ha vs hun => funcAt_literal p fuel f a fn hfn hl ha vs hun) as done vs acc

/-- C14 `literal_exact`: for a function all of whose `return`s list one literal per result,
    `ResultsOf` reports, per declared result in order, exactly the literal values written at that
    position of each `return` in source order (the declared type when there is no `return`). -/
theorem literal_exact (p : Prog) (fuel f : Nat) (fn : Func) (hfn : p[f]? = some fn) (hl : LiteralOnly fn) :
    resultsOf p true (fuel + 1) f = some ((List.range fn.results.length).map (expected fn)) := by
  unfold resultsOf
  simp only [hfn]
  exact resultsOfAux_literal p fuel f fn hfn hl (List.range fn.results.length) [] [] []
    (Or.inl ⟨rfl, rfl⟩) (fun a ha => ⟨List.mem_range.mp ha, List.not_mem_nil⟩) List.nodup_range

#print axioms literal_exact
end Gengo.Resolver

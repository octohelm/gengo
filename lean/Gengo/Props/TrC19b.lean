import Gengo.Props.TrC19
/-!
C19, tie by translation, second part: the closure `makeCase` of pkg/camelcase/naming.go returns (the body of all six
converters), regenerated by `go2lean` as `Gengo.Code.makeCase`, computes what the model `Camel.makeCase` computes.
Abstract in the translation: the word transformation (`trans` for `transWord`), and the two `unicode` tests of the drop
rule (`oneGraphic w` for `len(word) == 1 && unicode.IsGraphic(rune(word[0]))`, `notAlnum c` for
`!(unicode.IsDigit(c) || unicode.IsLetter(c))`) — total library functions, every choice of which the theorems cover.
The `word[0]` the code evaluates after the first test is in range because `Split` returns no empty word.
-/
namespace Gengo.TrC19b
open Gengo Gengo.Go Gengo.Code Gengo.Camel Gengo.TrC19

/-- the drop rule as the translated code evaluates it -/
def dropWord (oneGraphic : Str → Bool) (notAlnum : Char → Bool) : Str → Bool
  | [] => false
  | c :: r => oneGraphic (c :: r) && notAlnum c

/-- what the loop appends for the kept words, the first of which has index `k` -/
def render (trans : Str → Int → Str) (linker : Str) : List Str → Nat → Str
  | [], _ => []
  | w :: r, k => (if k > 0 then linker else []) ++ trans w (k : Int) ++ render trans linker r (k + 1)

/-- one round of the loop, in the shape of the drop rule (`word[0]` is in range since the word is not empty): a word that
    is kept gets the linker in front unless it is the first, is transformed, and moves the index up by one -/
theorem loop1_cons {p : Go.Preds} {trans oneGraphic notAlnum} {linker w : Str} (hw : w ≠ []) (rest : List Str)
    (b : Str) (k : Int) :
    Code.makeCase.loop1 p trans oneGraphic notAlnum linker (w :: rest) b k =
      if dropWord oneGraphic notAlnum w then Code.makeCase.loop1 p trans oneGraphic notAlnum linker rest b k
      else Code.makeCase.loop1 p trans oneGraphic notAlnum linker rest
        ((if decide (k > 0) then b ++ linker else b) ++ trans w k) (k + 1) := by
  obtain ⟨c, r, rfl⟩ := List.exists_cons_of_ne_nil hw
  rw [Code.makeCase.loop1, dropWord]
  cases oneGraphic (c :: r)
  · rfl
  · rw [if_pos rfl, GoRtLemmas.idx_zero, pure_bind]
    dsimp only
    cases notAlnum c <;> rfl

theorem loop1_eq (p : Go.Preds) (trans oneGraphic notAlnum) (linker : Str) (ws : List Str) (hne : ∀ w ∈ ws, w ≠ [])
    (b : Str) (k : Nat) :
    Code.makeCase.loop1 p trans oneGraphic notAlnum linker ws b (k : Int)
      = pure (b ++ render trans linker (ws.filter (fun w => !dropWord oneGraphic notAlnum w)) k,
              ((k + (ws.filter (fun w => !dropWord oneGraphic notAlnum w)).length : Nat) : Int)) := by
  induction ws generalizing b k with
  | nil => simp [Code.makeCase.loop1, render]
  | cons w rest ih =>
    have ih := ih fun x hx => hne x (List.mem_cons_of_mem _ hx)
    rw [loop1_cons (hne w List.mem_cons_self), List.filter_cons]
    cases dropWord oneGraphic notAlnum w
    · refine (ih _ (k + 1)).trans ?_
      rw [show (!false) = true from rfl, if_pos rfl, render, List.length_cons, Nat.add_right_comm, Nat.add_assoc k]
      simp only [gt_iff_lt, Int.natCast_pos, decide_eq_true_eq]
      split <;> simp
    · exact ih b k

theorem flatten_intersperse_cons (sep a : Str) (l : List Str) :
    ((a :: l).intersperse sep).flatten = a ++ (l.map (sep ++ ·)).flatten :=
  GoRtLemmas.flatten_intersperse_cons sep a l

theorem render_pos (trans : Str → Int → Str) (linker : Str) (ws : List Str) (k : Nat) (hk : k > 0) :
    render trans linker ws k = (((ws.zipIdx k).map fun (w, i) => trans w (i : Int)).map (linker ++ ·)).flatten := by
  induction ws generalizing k with
  | nil => simp [render]
  | cons w r ih =>
    simp [render, hk, List.zipIdx_cons, ih (k + 1) (by omega), List.append_assoc]

theorem render_zero (trans : Str → Int → Str) (linker : Str) (ws : List Str) :
    render trans linker ws 0 = (((ws.zipIdx).map fun (w, i) => trans w (i : Int)).intersperse linker).flatten := by
  cases ws with
  | nil => simp [render]
  | cons w r =>
    simp [render, List.zipIdx_cons, flatten_intersperse_cons, render_pos trans linker r 1 Nat.one_pos]

/-- The translated converter returns: `Split` does (`split_eq`, on the words `ws` the model's splitter gives), and the
    loop, whose `word[0]` is in range because no word of `ws` is empty, appends the kept words. -/
theorem makeCase_run (p : Go.Preds) (trans : Str → Int → Str) (oneGraphic : Str → Bool) (notAlnum : Char → Bool)
    (linker s : Str) :
    ∃ ws, Camel.split (preds p) true s = some ws ∧
      Code.makeCase p trans oneGraphic notAlnum linker s
        = pure (render trans linker (ws.filter fun w => !dropWord oneGraphic notAlnum w) 0) := by
  obtain ⟨ws, h, _, hn⟩ := split_total_lossless (preds p) s
  refine ⟨ws, h, ?_⟩
  rw [Code.makeCase, split_eq p s ws h, pure_bind]
  dsimp only
  rw [show (0 : Int) = ((0 : Nat) : Int) from rfl, loop1_eq p trans oneGraphic notAlnum linker ws hn [] 0, pure_bind,
    List.nil_append]

/-- the translated `makeCase` computes what the model computes, for every input, every linker, every word
    transformation and every choice of the Unicode predicates -/
theorem makeCase_eq (p : Go.Preds) (trans : Str → Int → Str) (oneGraphic : Str → Bool) (notAlnum : Char → Bool)
    (linker s : Str) :
    (Code.makeCase p trans oneGraphic notAlnum linker s).toOption
      = Camel.makeCase (preds p) true linker (fun w i => trans w (i : Int)) (dropWord oneGraphic notAlnum) s := by
  obtain ⟨ws, h, hc⟩ := makeCase_run p trans oneGraphic notAlnum linker s
  rw [hc, Camel.makeCase, h, render_zero]
  rfl

/-- C19 "case conversion never fails", of the translated code: the translated converter body returns a string
    for every input — no index out of range at `word[0]`, no fuel exhausted in `Split` -/
theorem code_makeCase_total (p : Go.Preds) (trans : Str → Int → Str) (oneGraphic : Str → Bool) (notAlnum : Char → Bool)
    (linker s : Str) : ∃ r, Code.makeCase p trans oneGraphic notAlnum linker s = .ok r := by
  obtain ⟨ws, _, hc⟩ := makeCase_run p trans oneGraphic notAlnum linker s
  exact ⟨_, hc⟩

/-- non-vacuity: a word is dropped (`-`), the linker goes between the kept ones -/
example : (Code.makeCase ⟨Char.isLower, Char.isUpper, Char.isDigit⟩ (fun w _ => w.map Char.toLower)
    (fun w => w.length == 1) (fun c => !c.isAlphanum) "_".toList "PDFLoader-9x".toList).toOption
    = some "pdf_loader_9_x".toList := by rw [makeCase_eq]; decide

#print axioms makeCase_eq
#print axioms code_makeCase_total
end Gengo.TrC19b

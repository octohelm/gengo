import Gengo.Gen.Code.C06
import Gengo.Model.RuntimeDoc
import Gengo.Props.TrC06
import Gengo.Props.GoRtLemmas
/-!
`(*gengoCtx).Doc` of pkg/gengo/context.go as translated (`Gengo.Code.ctxDoc`): what every generator — and `doGenerate`
itself, for the enabling decision — gets when it asks for the tags and doc lines of a declaration.  Abstract in the
translation: the comment index (`c.universe.Package(…).Doc(pos)` is the pair `(tags0, doc0)`), the declared name, the
global and package-level tags.  The tags are the translated `merge` of the three maps (`TrC06.merge_eq`: the
declaration's own tags win over the package's, those over the global ones); the doc lines are `docSpec`, which is the
model's `trimDoc` — the first-line trimming the runtimedoc model (C16) is built on — on the lines the comment extractor
hands over (`docSpec_eq_trimDoc`).
-/
namespace Gengo.TrC16
open Gengo Gengo.Go Gengo.RuntimeDoc

/-- the doc lines as the code computes them: `strings.CutPrefix`, the whole-word test, `strings.TrimSpace` -/
def docSpec (name : Str) : List Str → List Str
  | [] => []
  | l :: ls =>
    let l' : Str :=
      if name.isPrefixOf l then
        (match l.drop name.length with
         | [] => []
         | c :: r => if c == ' ' then Go.trimSpace (c :: r) else l)
      else l
    if l'.isEmpty then ls else l' :: ls

/-- the last step of `Doc`, whatever is done with the lines afterwards: a first line that is empty is dropped -/
theorem dropEmptyFirst {β : Type} (x : Str) (ls : List Str) (k : List Str → M β) :
    (if (Go.len x == 0) = true then Go.slice (x :: ls) 1 (Go.len (x :: ls)) >>= k else k (x :: ls))
      = k (if x.isEmpty then ls else x :: ls) := by
  rw [GoRtLemmas.slice_tail, pure_bind, apply_ite k]
  simp only [beq_iff_eq, GoRtLemmas.len_eq_zero, List.isEmpty_iff]

theorem ctxDoc_doc (globals pkgTags tags0 : List (Str × List Str)) (doc0 : List Str) (name : Str) :
    Code.ctxDoc globals pkgTags tags0 doc0 name
      = Code.merge [globals, pkgTags, tags0] >>= fun tags => pure (tags, docSpec name doc0) := by
  unfold Code.ctxDoc
  cases doc0 with
  | nil => rfl
  | cons l ls =>
    have hlen : Go.len (l :: ls) > 0 := by simp [Go.len]
    simp only [hlen, decide_true, if_true, GoRtLemmas.idx_zero, GoRtLemmas.setIdx_zero, pure_bind, dropEmptyFirst,
      Go.cutPrefix, docSpec]
    by_cases hp : name.isPrefixOf l = true
    · simp only [hp, if_true]
      cases l.drop name.length with
      | nil => rfl
      | cons c r =>
        simp only [GoRtLemmas.idx_zero, pure_bind]
        cases c == ' ' <;> rfl
    · simp only [hp]
      rfl

/-- the translated `Doc` never panics (every index and slice expression is in range), its doc lines are `docSpec`
    and its tags the translated `merge` of globals, package tags and the declaration's own -/
theorem ctxDoc_eq (globals pkgTags tags0 : List (Str × List Str)) (doc0 : List Str) (name : Str) :
    ∃ tags, Code.merge [globals, pkgTags, tags0] = pure tags ∧
      Code.ctxDoc globals pkgTags tags0 doc0 name = pure (tags, docSpec name doc0) := by
  obtain ⟨tags, ht, _⟩ := TrC06.merge_eq globals pkgTags tags0
  exact ⟨tags, ht, by rw [ctxDoc_doc, ht, pure_bind]⟩

/-- `docSpec` is the model's `trimDoc` (repaired variant) whenever `strings.TrimSpace` of what follows the name only has
    blanks to remove in front — which is what the comment extractor hands over: lines without trailing white space,
    written with blanks after the name -/
theorem docSpec_eq_trimDoc (name : Str) (doc : List Str)
    (h : ∀ l ls rest, doc = l :: ls → dropPrefix name l = some rest → Go.trimSpace rest = trimLeft rest) :
    docSpec name doc = trimDoc true name doc := by
  cases doc with
  | nil => rfl
  | cons l ls =>
    rw [docSpec, trimDoc, dropPrefix]
    by_cases hp : name.isPrefixOf l = true
    · have ht := h l ls _ rfl (if_pos hp)
      rw [if_pos hp, if_pos hp]
      cases hr : l.drop name.length with
      | nil => rfl
      | cons c r =>
        rw [hr] at ht
        simp only [ht, if_true]
    · rw [if_neg hp, if_neg hp]

/-- C16 / C06, of the translated code: `Context.Doc` answers with the model's trimmed doc lines and with tags in which,
    key by key, the declaration's own value wins over the package's and that over the global one -/
theorem code_doc_model (globals pkgTags tags0 : List (Str × List Str)) (doc0 : List Str) (name : Str)
    (hg : (globals.map (·.1)).Nodup) (hp : (pkgTags.map (·.1)).Nodup) (hd : (tags0.map (·.1)).Nodup)
    (h : ∀ l ls rest, doc0 = l :: ls → dropPrefix name l = some rest → Go.trimSpace rest = trimLeft rest) :
    ∃ tags, Code.ctxDoc globals pkgTags tags0 doc0 name = .ok (tags, trimDoc true name doc0) ∧
      ∀ k, tags.lookup k = (Pipeline.merge3 globals pkgTags tags0).lookup k := by
  obtain ⟨tags, ht, hl⟩ := TrC06.merge_eq_merge3 globals pkgTags tags0 hg hp hd
  exact ⟨tags, by rw [ctxDoc_doc, ht, pure_bind, docSpec_eq_trimDoc name doc0 h]; rfl, hl⟩

/-- non-vacuity: the name as a word of its own goes, the name as the prefix of a longer word stays, a line that is only
    the name is dropped -/
example : Code.ctxDoc [] [] [] ["Thing is  a thing".toList, "second".toList] "Thing".toList
    = .ok ([], ["is  a thing".toList, "second".toList]) := by
  simp only [String.reduceToList]; rfl
example : Code.ctxDoc [] [] [] ["Things are".toList] "Thing".toList = .ok ([], ["Things are".toList]) := by
  simp only [String.reduceToList]; rfl
example : Code.ctxDoc [] [] [] ["Thing".toList, "second".toList] "Thing".toList = .ok ([], ["second".toList]) := by rfl

#print axioms ctxDoc_eq
#print axioms docSpec_eq_trimDoc
#print axioms code_doc_model
end Gengo.TrC16

import Gengo.Props.C09c
import Gengo.Model.Snippet
import Gengo.Props.C09e
namespace Gengo.Template

/-! C09 for nested snippets: templates whose arguments are snippets, `Sprintf` inside them, `Snippets`/`Fragments`. -/

/-- nested templates: rendering `T(format, bindings…)` is substituting, into the tokens of the
    format (leading newlines dropped), the *complete renderings of the bound snippets* — whatever
    they are (templates again, sequences, leaves).  The inner text reaches the output through
    `subst` only: it is never tokenized, at any nesting depth. -/
theorem renderS_tmpl (f6 : Bool) (fmt : List Char) (names : List (List Char)) (args : List Snip) :
    renderS true f6 (.tmpl fmt names args) =
      subst (envList true f6 names args) (tokenize ((fmt.dropWhile (· == '\n')).length + 1) (fmt.dropWhile (· == '\n'))) := by
  simp only [renderS, render]
  exact scan_eq_subst _ _ _ (by omega)

/-- C09 `seq_spec`: `Snippets`/`Fragments` concatenate the renderings of the non-nil parts in
    order (when each of them renders) -/
theorem seq_spec (f5 f6 : Bool) (parts : List Snip) (h : ∀ s ∈ parts, s.isNil = false → (renderS f5 f6 s).isSome = true) :
    renderS f5 f6 (.seq parts) = some ((parts.filter (!·.isNil)).map fun s => (renderS f5 f6 s).getD []).flatten := by
  rw [renderS]
  induction parts with
  | nil => rfl
  | cons s ss ih =>
    rw [renderSeq, ih (fun x hx => h x (by simp [hx]))]
    cases hn : s.isNil with
    | true => simp [hn]
    | false =>
      obtain ⟨t, ht⟩ := Option.isSome_iff_exists.mp (h s (by simp) hn)
      simp [hn, ht]

/-- a part that panics makes the sequence panic — unless it is nil, then it is never rendered -/
theorem seq_panics (f5 f6 : Bool) (s : Snip) (ss : List Snip) (hn : s.isNil = false) (hp : renderS f5 f6 s = none) :
    renderS f5 f6 (.seq (s :: ss)) = none := by
  simp [renderS, renderSeq, hn, hp]

/-- a name is unbound iff no binding mentions it (a placeholder for it then panics: `flush`) -/
theorem envList_none (f5 f6 : Bool) (names : List (List Char)) (args : List Snip) (hlen : names.length = args.length) (k : List Char) :
    envList f5 f6 names args k = none ↔ k ∉ names := by
  induction names generalizing args with
  | nil => cases args <;> simp [envList]
  | cons n ns ih =>
    cases args with
    | nil => simp at hlen
    | cons s ss =>
      rw [envList, List.mem_cons, not_or, ← ih ss (by simpa using hlen)]
      cases he : envList f5 f6 ns ss k <;> simp [he]

/-- nested Sprintf: rendering `Sprintf(format, args…)` is substituting, into the verb tokens of
    the format, the complete renderings of the arguments (each rendered only when its verb is
    reached, left to right); argument text is never scanned for verbs, at any nesting depth. -/
theorem renderS_sprintf (f5 : Bool) (fmt : List Char) (vs ts : List Snip) :
    renderS f5 true (.sprintf fmt vs ts) = Sprintf.subst (Sprintf.tokens fmt) (List.zipWith Sprintf.Arg.mk (renderList f5 true vs) (renderList f5 true ts)) := by
  simp only [renderS]
  exact Sprintf.sprintf_spec _ _

/-- `SnippetWriter.Render`: a nil snippet writes nothing, any other its complete rendering -/
theorem renderTop_spec (f5 f6 : Bool) (s : Snip) :
    renderTop f5 f6 s = if s.isNil then some [] else renderS f5 f6 s := rfl

-- `T("f(@x', @y)", x ↦ T("@y@y", y ↦ "ab"), y ↦ Snippets(nil, "c", "@x"))`: the inner `@x` of the
-- sequence's leaf is output verbatim, not substituted
example :
    renderS true true (.tmpl "\nf(@x', @y)".toList ["x".toList, "y".toList]
      [.tmpl "@y@y".toList ["y".toList] [.leaf false (some "ab".toList)],
       .seq [.leaf true none, .leaf false (some "c".toList), .leaf false (some "@x".toList)]])
      = some "f(abab, c@x)".toList := by
  simp only [String.reduceToList]; decide

#print axioms renderS_tmpl
#print axioms renderS_sprintf
#print axioms seq_spec
end Gengo.Template

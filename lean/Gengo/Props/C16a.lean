import Gengo.Model.RuntimeDoc
/-!
C16, what the generated `RuntimeDoc` methods return (`Model/RuntimeDoc`), clause by clause: the type's doc, a listed
field's doc, delegation to embedded structs, nothing for other names and for types without a method.  In front: the
first-line trimming (F16) and the method of a non-struct type (F19), pinned against repaired.
-/
namespace Gengo.RuntimeDoc

/-- pinned code (F16): the type name is stripped even when it is only a prefix of the first word -/
example : trimDoc false "List".toList ["Lists all".toList] = ["s all".toList] := by
  simp only [String.reduceToList]; decide
example : trimDoc true "List".toList ["Lists all".toList] = ["Lists all".toList] := by
  simp only [String.reduceToList]; decide
example : trimDoc true "List".toList ["List of things".toList, "more".toList] = ["of things".toList, "more".toList] := by
  simp only [String.reduceToList]; decide
example : trimDoc true "Name".toList ["Name".toList, "x".toList] = ["x".toList] := by
  simp only [String.reduceToList]; decide

def fld (n : String) (doc : List String) : Field :=
  { name := n.toList, exported := true, embedded := false, doc := doc.map String.toList }

def demo : Pkg :=
  [ ⟨"Obj".toList, true, .struct [fld "Name" ["Name of it"],
      { name := "Sub".toList, exported := true, embedded := true, doc := [], target := some 1 }], ["Obj some object".toList]⟩,
    ⟨"Sub".toList, true, .struct [fld "Age" ["Age in years"]], []⟩,
    ⟨"Kind".toList, true, .scalar, ["Kind doc".toList]⟩ ]

example : runtimeDoc true true demo 3 0 [] = some ["some object".toList] := by
  simp only [String.reduceToList]; decide
example : runtimeDoc true true demo 3 0 ["Name".toList] = some ["of it".toList] := by
  simp only [String.reduceToList]; decide
/-- delegation to the embedded struct -/
example : runtimeDoc true true demo 3 0 ["Age".toList] = some ["in years".toList] := by
  simp only [String.reduceToList]; decide
example : runtimeDoc true true demo 3 0 ["Nope".toList] = none := by
  simp only [String.reduceToList]; decide
/-- pinned code (F19): a scalar type answers any name with its own doc -/
example : runtimeDoc true false demo 3 2 ["x".toList] = some ["doc".toList] := by
  simp only [String.reduceToList]; decide
example : runtimeDoc true true demo 3 2 ["x".toList] = none := by decide

/-- C16 `type_doc`: for every covered type, `RuntimeDoc()` is the type's trimmed doc and `true` -/
theorem type_doc (ft fs : Bool) (p : Pkg) (fuel id : Nat) (t : TypeD) (ht : p[id]? = some t)
    (hc : covered t = true) : runtimeDoc ft fs p (fuel + 1) id [] = some (trimDoc ft t.name t.doc) := by
  simp only [runtimeDoc, ht, hc]
  cases hk : t.kind with
  | iface => simp [covered, hk] at hc
  | scalar | struct => simp

/-- C16 `field_doc`: a listed field answers with its own trimmed doc -/
theorem field_doc (ft fs : Bool) (p : Pkg) (fuel id : Nat) (t : TypeD) (fields : List Field)
    (ht : p[id]? = some t) (hk : t.kind = .struct fields) (hc : covered t = true)
    (n : Str) (d : List Str) (hl : (cases ft fields).lookup n = some d) (rest : List Str) :
    runtimeDoc ft fs p (fuel + 1) id (n :: rest) = some d := by
  simp [runtimeDoc, ht, hc, hk, hl]

theorem promotedOwner_nil (p : Pkg) (fuel : Nat) : promotedOwner p fuel [] = none := by
  cases fuel <;> simp [promotedOwner]

theorem embeddedTargets_none {p : Pkg} {id : Nat} {t : TypeD} {fields : List Field}
    (ht : p[id]? = some t) (hk : t.kind = .struct fields) (hne : ∀ f ∈ fields, f.embedded = false) :
    embeddedTargets p id = [] := by
  simp only [embeddedTargets, ht, hk]
  apply List.filterMap_eq_nil_iff.mpr
  intro f hf; simp [hne f hf]

/-- C16 `uncovered_has_no_method`: a type without a generated method and without embedded
    structs (from which Go could promote one) answers nothing -/
theorem uncovered_none (ft fs : Bool) (p : Pkg) (fuel id : Nat) (t : TypeD) (ht : p[id]? = some t)
    (hc : covered t = false) (he : embeddedTargets p id = []) (names : List Str) :
    runtimeDoc ft fs p (fuel + 1) id names = none := by
  simp [runtimeDoc, ht, hc, he, promotedOwner_nil]

/-- C16 `embedded_delegation`: a name that is not one of the struct's own listed fields is answered
    by the first embedded struct (in field order) that knows it, with the embedded field's first
    doc line as prefix of the first line; `(nil, false)` if none does -/
theorem embedded_delegation (ft fs : Bool) (p : Pkg) (fuel id : Nat) (t : TypeD) (fields : List Field)
    (ht : p[id]? = some t) (hk : t.kind = .struct fields) (hc : covered t = true)
    (n : Str) (hl : (cases ft fields).lookup n = none) (rest : List Str) :
    runtimeDoc ft fs p (fuel + 1) id (n :: rest) =
      (embeds ft fields).findSome? fun e =>
        match e.1 with
        | none => none
        | some tid => (runtimeDoc ft fs p fuel tid (n :: rest)).map (applyPrefix e.2) := by
  simp only [runtimeDoc, ht, hc, Bool.not_true, Bool.false_eq_true, if_false, hk, hl]
  rfl

/-- C16 `other_name_none`: a struct without embedded fields answers any unlisted name with
    `(nil, false)` -/
theorem other_name_none (ft fs : Bool) (p : Pkg) (fuel id : Nat) (t : TypeD) (fields : List Field)
    (ht : p[id]? = some t) (hk : t.kind = .struct fields) (hne : ∀ f ∈ fields, f.embedded = false)
    (n : Str) (hl : (cases ft fields).lookup n = none) (rest : List Str) :
    runtimeDoc ft fs p (fuel + 1) id (n :: rest) = none := by
  cases hc : covered t with
  | false => exact uncovered_none ft fs p fuel id t ht hc (embeddedTargets_none ht hk hne) _
  | true =>
    have he : embeds ft fields = [] :=
      List.filterMap_eq_nil_iff.mpr fun f hf => by simp [hne f hf]
    rw [embedded_delegation ft fs p fuel id t fields ht hk hc n hl rest, he]
    rfl

end Gengo.RuntimeDoc

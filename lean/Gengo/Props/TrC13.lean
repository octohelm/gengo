import Gengo.Gen.Code.C13
import Gengo.Model.Loader
import Gengo.Props.C13d
import Gengo.Props.GoRtLemmas
/-!
The closure `(*pkgInfo).SourceDir` invokes in place (pkg/types/package.go), as translated (`Gengo.Code.sourceDir`),
against the model `Locate.sourceDir` over segment lists.  Abstract: the accessors (`p.Package.PkgPath`, `p.Module().Path`,
`p.Module().Dir`, the two nil tests) and `filepath.Join` (`pathJoin`).  Import paths are written with `/` between their
segments (`joinSegs`); what `filepath.Join` does with a directory and a rooted remainder is a hypothesis of the last
theorem (`hJ`), the rest — the comparison, the slice expression `PkgPath[len(Module.Path):]` being in range — is proved.
-/
namespace Gengo.TrC13
open Gengo Gengo.Go Gengo.Locate

/-- an import path as it is written -/
def joinSegs : Path → Str
  | [] => []
  | [a] => a
  | a :: b :: r => a ++ '/' :: joinSegs (b :: r)

theorem joinSegs_append (mp rel : Path) (h1 : mp ≠ []) (h2 : rel ≠ []) :
    joinSegs (mp ++ rel) = joinSegs mp ++ '/' :: joinSegs rel := by
  induction mp with
  | nil => exact absurd rfl h1
  | cons a rest ih =>
    cases rest with
    | nil =>
      obtain ⟨b, r, rfl⟩ := List.exists_cons_of_ne_nil h2
      rfl
    | cons b r => simpa [joinSegs] using ih (List.cons_ne_nil b r)

/-- the translated closure never panics on a package of its module (the slice `PkgPath[len(Module.Path):]` is in
    range because the module path is a prefix of the package path) and hands `filepath.Join` the module directory and
    the rooted remainder -/
theorem sourceDir_eq (mp rel : Path) (hmp : mp ≠ []) (dir : Str) (pathJoin : List Str → M Str) :
    Code.sourceDir false false (joinSegs (mp ++ rel)) (joinSegs mp) dir pathJoin
      = if rel = [] then pure dir else pathJoin [dir, '/' :: joinSegs rel] := by
  unfold Code.sourceDir
  by_cases hr : rel = []
  · -- the module's root package: the two paths are one string, the comparison succeeds
    subst hr; simp
  · -- below the root the package path is the module path with `/…` behind it: the comparison fails (a list is not
    -- itself with a non-empty list appended) and the slice from `len(Module.Path)` on is what was appended
    rw [joinSegs_append mp rel hmp hr, GoRtLemmas.slice_append_right]
    simp [hr]

/-- no module (a package outside every module): the empty string, which is nobody's directory -/
theorem sourceDir_noMod (pkgPath modPath modDir : Str) (pathJoin : List Str → M Str) :
    Code.sourceDir false true pkgPath modPath modDir pathJoin = pure [] := by
  simp [Code.sourceDir]

/-- C13, of the translated code: for a package `mp/rel` of the module `mp` kept in `md`, the translated `SourceDir` is
    the model's — provided `filepath.Join` of a directory and a rooted remainder is the directory extended by the
    remainder's segments (`hJ`) -/
theorem code_sourceDir_model (mp md rel : Path) (hmp : mp ≠ []) (renderDir : Path → Str) (pathJoin : List Str → M Str)
    (hJ : ∀ r, r ≠ [] → pathJoin [renderDir md, '/' :: joinSegs r] = pure (renderDir (md ++ r))) :
    Code.sourceDir false false (joinSegs (mp ++ rel)) (joinSegs mp) (renderDir md) pathJoin
      = pure (renderDir ((Locate.sourceDir { pkgPath := mp ++ rel, mod := some (mp, md) }).getD [])) := by
  rw [sourceDir_eq mp rel hmp, sourceDir_correct]
  by_cases hr : rel = []
  · subst hr; simp
  · simp [hr, hJ rel hr]

example : Code.sourceDir false false "example.com/app/a/b".toList "example.com/app".toList "/src/app".toList
    (fun l => pure (l.flatten)) = .ok "/src/app/a/b".toList := by
  simp only [String.reduceToList]; rfl

#print axioms sourceDir_eq
#print axioms code_sourceDir_model
end Gengo.TrC13

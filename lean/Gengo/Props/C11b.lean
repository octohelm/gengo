import Gengo.Model.TypeLit
import Gengo.Props.C15c
namespace Gengo.TypeLit
open Gengo.TypeRef Gengo.Tracker

/-!
### C11 ∘ C15: generic instantiations go through the reference parser and the namer's rewrite

For a named type with arguments the real printer does not recurse on types: it prints the
reference as a string (`path.Name[path.Arg,…]`), `ParseTypeRef` re-parses it, the namer rewrites
package paths to local names (`rewrite`, C15) and the result is printed.  `Model/TypeLit` recurses
on the argument *types* instead.  This file shows the two agree on the grammar C11 allows for
arguments (named types of any package — generic again or not — and predeclared names):
`parse ∘ print = id` is C15 `parse_print`; what remains is that printing the *rewritten*
reference tree is what `typeLit` prints.
-/

mutual
  /-- the reference tree of a type of the argument grammar (`none` outside it) -/
  def toTRef : GoType → Option TRef
    | .basic n => some (.mk [] n [])
    | .named pkg name args => (toTRefs args).map (.mk pkg name)
    | _ => none
  def toTRefs : List GoType → Option (List TRef)
    | [] => some []
    | t :: ts =>
      match toTRef t, toTRefs ts with
      | some r, some rs => some (r :: rs)
      | _, _ => none
end

mutual
  /-- a relabelled reference (package field = local name, empty = unqualified) as printed tree -/
  def ofTRef : TRef → TExpr
    | .mk q name args =>
      let base := if q.isEmpty then TExpr.ident name else TExpr.qual q name
      match args with
      | [] => base
      | a :: as => .inst base (ofTRefs (a :: as))
  def ofTRefs : List TRef → List TExpr
    | [] => []
    | a :: as => ofTRef a :: ofTRefs as
end

mutual
  /-- the argument grammar of C11: predeclared names and named types (of a real package), nested -/
  def ArgOK : GoType → Prop
    | .basic _ => True
    | .named pkg _ args => pkg ≠ [] ∧ ArgsOK args
    | _ => False
  def ArgsOK : List GoType → Prop
    | [] => True
    | t :: ts => ArgOK t ∧ ArgsOK ts
end

/-- the environment `typeLit` is given is the final import table: own package unqualified,
    every other package under the name the table binds (non-empty: `add_valid`) -/
structure EnvOf (env : Env) (final : Tracker) : Prop where
  name : ∀ p, env.localName p = localNameOf final p
  nonempty : ∀ p, p ≠ env.self → p ≠ [] → (localNameOf final p) ≠ []

/-- a base expression with its type arguments, if it has any: what both printers build at a node -/
def instOf (base : TExpr) : List TExpr → TExpr
  | [] => base
  | e :: es => .inst base (e :: es)

theorem typeLit_named (fixed : Bool) (env : Env) (pkg name : Str) (args : List GoType) :
    typeLit fixed env (.named pkg name args) =
      instOf (if pkg = env.self then .ident name else .qual (env.localName pkg) name) (typeLits fixed env args) := by
  cases args <;> simp only [typeLit, typeLits, instOf]

theorem ofTRef_mk (q name : Str) (args : List TRef) :
    ofTRef (.mk q name args) = instOf (if q.isEmpty then .ident name else .qual q name) (ofTRefs args) := by
  cases args <;> simp only [ofTRef, ofTRefs, instOf]

mutual
  /-- C11 ∘ C15: for every type of the argument grammar the reference tree exists and what
      `typeLit` prints is the print of that tree relabelled with the final import table — i.e.
      (with `parse_print` and `rewrite_final_names`) what the real string round trip prints -/
  theorem typeLit_ofTRef (fixed : Bool) (env : Env) (final : Tracker) (he : EnvOf env final)
      (hself : env.self ≠ []) : (t : GoType) → ArgOK t →
      ∃ r, toTRef t = some r ∧ typeLit fixed env t = ofTRef (relabel final env.self r)
    | .basic n, _ => ⟨.mk [] n [], rfl, rfl⟩
    | .named pkg name args, hw => by
      obtain ⟨rs, hrs, hargs⟩ := typeLits_ofTRefs fixed env final he hself args hw.2
      refine ⟨.mk pkg name rs, by rw [toTRef, hrs]; rfl, ?_⟩
      rw [typeLit_named, relabel, ofTRef_mk, hargs]
      congr 1
      -- the qualifier: none for the own package, else the non-empty name of the final table
      by_cases hs : pkg = env.self
      · simp [hs]
      · simp [hs, hw.1, he.nonempty pkg hs hw.1, he.name]
    | .error, h | .any, h | .ptr _, h | .slice _, h | .array _ _, h | .map _ _, h | .chan _, h | .struct _, h =>
      False.elim h
  theorem typeLits_ofTRefs (fixed : Bool) (env : Env) (final : Tracker) (he : EnvOf env final)
      (hself : env.self ≠ []) : (ts : List GoType) → ArgsOK ts →
      ∃ rs, toTRefs ts = some rs ∧ typeLits fixed env ts = ofTRefs (relabels final env.self rs)
    | [], _ => ⟨[], rfl, rfl⟩
    | t :: ts, hw => by
      obtain ⟨r, hr, h1⟩ := typeLit_ofTRef fixed env final he hself t hw.1
      obtain ⟨rs, hrs, h2⟩ := typeLits_ofTRefs fixed env final he hself ts hw.2
      exact ⟨r :: rs, by rw [toTRefs, hr, hrs], by rw [typeLits, relabels, ofTRefs, h1, h2]⟩
end

#print axioms typeLit_ofTRef
end Gengo.TypeLit

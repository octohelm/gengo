import Gengo.Model.Eval
import Gengo.Props.C10lit
import Gengo.Props.C10perm
/-!
C10 `eval_valueLit`: what the repaired printer prints for a well-typed value (`WF`) evaluates to the value.  The
printer omits unexported fields, so the theorem can only hold of values whose unexported fields are zero: that is a
clause of `WFFields`, and a restriction of the domain.  `eval_value`, at the end, is the statement for `snippet.Value`.
-/
namespace Gengo.Eval
open Gengo.Dumper

def names (fts : List FieldTy) : List Str := fts.map fun | .mk n _ _ => n

mutual
  /-- well-typed values of the C10 domain -/
  def WF : Val → Ty → Prop
    | .leaf k ty lit e, .scalar text z =>
      ty = text ∧ lit ≠ [] ∧ (e = true → lit = z) ∧
      (match k with | .basic n => n ≠ [] | .string => True | _ => False)
    | .nilPtr, .ptr _ => True
    | .ptr v, .ptr t =>
      WF v t ∧ (match v with | .leaf .. => True | .struct .. => True | .map .. => True | .seq .. => True | _ => False)
    | .struct ty fs, .struct text fts => ty = text ∧ text ≠ [] ∧ WFFields fs fts ∧ (names fts).Nodup
    | .map ty es, .map text k v =>
      ty = text ∧ text ≠ [] ∧ (match k with | .scalar .. => True | _ => False) ∧ WFEntries es k v ∧
      -- the keys print to distinct literals (they are distinct keys of one Go map); the entries may
      -- be presented in any order
      ((mapEntries true false es).map (·.1)).Nodup
    | .seq ty es, .seq text t => ty = text ∧ text ≠ [] ∧ WFList es t
    | _, _ => False
  def WFFields : List (Str × Bool × Val) → List FieldTy → Prop
    | [], [] => True
    | (n, ex, v) :: fs, .mk name ex' t :: fts =>
      n = name ∧ ex = ex' ∧ n ≠ [] ∧ WF v t ∧ (ex = false → denote v t = some (zero t)) ∧ WFFields fs fts
    | _, _ => False
  def WFEntries : List (Val × Val) → Ty → Ty → Prop
    | [], _, _ => True
    | (k, v) :: es, kt, vt => WF k kt ∧ WF v vt ∧ WFEntries es kt vt
  def WFList : List Val → Ty → Prop
    | [], _ => True
    | v :: vs, t => WF v t ∧ WFList vs t
end

theorem eval_raw {s : Str} (hs : s ≠ []) (text z : Str) : eval (.raw s) (.scalar text z) = some (.scalar s) := by
  rw [eval, if_neg (mt List.isEmpty_iff.mp hs)]

theorem eval_addr {e : Expr} (h : ∃ ty es, e = .comp ty es) (t : Ty) :
    eval (.addr e) (.ptr t) = (eval e t).map .ptr := by
  obtain ⟨ty, es, rfl⟩ := h
  rw [eval]

theorem eval_closure (text z s : Str) :
    eval (.closure text (.raw s)) (.ptr (.scalar text z)) = (eval (.raw s) (.scalar text z)).map .ptr := by
  simp only [eval, if_true]

theorem empty_denote_zero {v : Val} {t : Ty} (hw : WF v t) (he : v.isEmpty = true) :
    denote v t = some (zero t) := by
  revert hw
  -- the six shapes that `WF` relates; off them it is `False`
  fun_cases WF v t with
  | case1 k ty lit e text z =>
    rintro ⟨rfl, hlit, hz, _⟩
    cases hz he
    exact if_pos ⟨rfl, hlit⟩
  | case2 => exact fun _ => rfl
  | case3 | case4 => cases he
  | case5 ty es text k v =>
    rintro ⟨rfl, _⟩
    cases List.isEmpty_iff.mp he
    simp [denote, denoteEntries, zero, canon, sortBy]
  | case6 ty es text t' =>
    rintro ⟨rfl, _⟩
    cases List.isEmpty_iff.mp he
    exact if_pos rfl
  | case7 => exact False.elim

theorem evalFields_skip {name : Str} {ex : Bool} {t : Ty} {fts : List FieldTy} {es : List (Option Str × Expr)}
    (h : ∀ x ∈ es, x.1 ≠ some name) :
    evalFields (.mk name ex t :: fts) es = (evalFields fts es).map (zero t :: ·) := by
  cases es with
  | nil => rw [evalFields]
  | cons x xs =>
    obtain ⟨k, e⟩ := x
    rw [evalFields, if_neg (h (k, e) List.mem_cons_self)]

theorem wfFields_names {fs : List (Str × Bool × Val)} {fts : List FieldTy} (h : WFFields fs fts) :
    fs.map (·.1) = names fts := by
  induction fs generalizing fts with
  | nil => cases fts with | nil => rfl | cons => exact h.elim
  | cons f rest ih =>
    obtain ⟨n, ex, v⟩ := f
    cases fts with
    | nil => exact h.elim
    | cons ft fts =>
      obtain ⟨name, ex', t⟩ := ft
      obtain ⟨rfl, _, _, _, _, h⟩ := h
      exact congrArg (n :: ·) (ih h)

/-- what is printed for a pointer means a pointer to what is printed for the pointee with `SubValue` off -/
theorem eval_valueLit_ptr (sub : Bool) {v : Val} {t : Ty} (hw : WF (.ptr v) (.ptr t)) :
    valueLit true sub (.ptr v) ≠ .raw [] ∧
      eval (valueLit true sub (.ptr v)) (.ptr t) = (eval (valueLit true false v) t).map .ptr := by
  obtain ⟨hwv, hshape⟩ := hw
  cases v with
  | leaf k ty lit e =>
    cases t with
    | scalar text z =>
      obtain ⟨rfl, _, _, hk⟩ := hwv
      rw [valueLit_ptr_leaf sub (by cases k <;> simp at hk ⊢)]
      exact ⟨nofun, eval_closure ty z lit⟩
    | _ => exact hwv.elim
  | struct _ _ | map _ _ | seq _ _ =>
    rw [valueLit_ptr_comp sub ⟨_, _, rfl⟩]
    exact ⟨nofun, eval_addr ⟨_, _, rfl⟩ t⟩
  | nilPtr | ptr _ | iface => exact hshape.elim

theorem raw_nil_ne : ("nil".toList : Str) ≠ [] := by simp

mutual
  /-- C10 `eval_valueLit` (repaired printer): the printed expression, evaluated at the value's
      type, is the value (nil/empty identified, omitted fields zero).  With `SubValue` on the only
      other outcome is the hole, and then the value is the zero value of its type. -/
  theorem eval_valueLit : (v : Val) → (t : Ty) → WF v t → ∀ sub,
      (valueLit true sub v = .raw [] ∧ sub = true ∧ denote v t = some (zero t)) ∨
      (valueLit true sub v ≠ .raw [] ∧ eval (valueLit true sub v) t = denote v t)
    | .leaf k ty lit e, .scalar _ z, ⟨rfl, hlit, _⟩, sub =>
      .inr ⟨fun h => hlit (Expr.raw.inj h), by rw [valueLit, eval_raw hlit, denote, if_pos ⟨rfl, hlit⟩]⟩
    | .nilPtr, .ptr t', _, sub =>
      .inr ⟨fun h => raw_nil_ne (Expr.raw.inj h), by rw [valueLit, eval, if_pos rfl, denote]⟩
    | .ptr v, .ptr t', hw, sub => by
      -- the pointee's own literal means the pointee: with `SubValue` off there is no hole
      have hev := ((eval_valueLit v t' hw.1 false).resolve_left (nomatch ·.2.1)).2
      obtain ⟨hne, hptr⟩ := eval_valueLit_ptr sub hw
      exact .inr ⟨hne, by rw [hptr, hev, denote]⟩
    | .struct ty fs, .struct _ fts, ⟨rfl, _, hwf, hnd⟩, sub => by
      obtain ⟨hf1, hf2⟩ := eval_fields fs fts hwf hnd
      rw [valueLit_struct]
      split
      case isTrue h => exact .inl ⟨rfl, h.1, by rw [denote, if_pos rfl, hf2 h.2, zero]; rfl⟩
      case isFalse => exact .inr ⟨nofun, by rw [eval, if_pos rfl, hf1, denote, if_pos rfl]⟩
    | .map ty es, .map _ kt vt, ⟨rfl, _, hk, hwe, hnd⟩, sub =>
      .inr ⟨nofun, by rw [valueLit_map, eval_sorted_map hnd, eval_entries es kt vt hk hwe, denote, if_pos rfl]⟩
    | .seq ty es, .seq _ t', ⟨rfl, _, hwl⟩, sub =>
      .inr ⟨nofun, by rw [valueLit, eval, if_pos rfl, eval_elems es t' hwl, denote, if_pos rfl]⟩
  theorem eval_fields : (fs : List (Str × Bool × Val)) → (fts : List FieldTy) → WFFields fs fts →
      (names fts).Nodup →
      evalFields fts (structFields true fs) = denoteFields fs fts ∧
      (structFields true fs = [] → denoteFields fs fts = some (zeros fts))
    | [], [], _, _ => ⟨by rw [structFields, evalFields, denoteFields], fun _ => rfl⟩
    | (n, ex, v) :: rest, .mk _ _ t :: fts, h, hnd => by
      obtain ⟨rfl, rfl, _, hwv, hunexp, hrest⟩ := h
      obtain ⟨hnotin, hnd'⟩ : n ∉ names fts ∧ (names fts).Nodup := List.nodup_cons.mp hnd
      obtain ⟨ih1, ih2⟩ := eval_fields rest fts hrest hnd'
      rw [denoteFields, if_pos ⟨rfl, rfl⟩, structFields_cons]
      split
      case isTrue hp =>
        -- the field is printed, and its literal means its value
        have hne : valueLit true true v ≠ .raw [] := mt Expr.show_eq_nil.mpr hp.2.2
        have hev := ((eval_valueLit v t hwv true).resolve_left fun h => hne h.1).2
        rw [evalFields, if_pos rfl, hev, ih1]
        exact ⟨rfl, nofun⟩
      case isFalse hp =>
        -- the field is omitted: unexported, empty, or the hole; each time its value is the zero value
        have hz : denote v t = some (zero t) := by
          cases hex : ex with
          | false => exact hunexp hex
          | true =>
            cases he : v.isEmpty with
            | true => exact empty_denote_zero hwv he
            | false =>
              have hhole := Expr.show_eq_nil.mp (Decidable.of_not_not fun hs => hp ⟨hex, he, hs⟩)
              exact ((eval_valueLit v t hwv true).resolve_right fun h => h.1 hhole).2.2
        have hkeys := structFields_key_ne (fixed := true) (wfFields_names hrest ▸ hnotin)
        rw [evalFields_skip hkeys, ih1, hz]
        refine ⟨?_, fun he => ?_⟩
        · cases denoteFields rest fts <;> rfl
        · rw [ih2 he]; rfl
  theorem eval_entries : (es : List (Val × Val)) → (kt vt : Ty) →
      (match kt with | .scalar .. => True | _ => False) → WFEntries es kt vt →
      evalEntries kt vt ((mapEntries true false es).map fun kv => (some kv.1, kv.2)) = denoteEntries es kt vt
    | [], _, _, _, _ => by rw [mapEntries, List.map_nil, evalEntries, denoteEntries]
    | (k, v) :: rest, kt, vt, hk, ⟨hwk, hwv, hrest⟩ => by
      have ih := eval_entries rest kt vt hk hrest
      have hev := ((eval_valueLit v vt hwv false).resolve_left (nomatch ·.2.1)).2
      cases kt with
      | scalar text z =>
        -- a value of scalar type is a leaf: its key text is its literal
        cases k with
        | leaf kk ty lit e =>
          obtain ⟨rfl, hlit, _⟩ := hwk
          rw [mapEntries, List.map_cons, evalEntries, if_neg (by simpa [valueLit, Expr.show] using hlit), hev, ih,
            denoteEntries, denote, if_pos ⟨rfl, hlit⟩]
          cases denote v vt <;> cases denoteEntries rest (.scalar ty z) vt <;> rfl
        | _ => exact hwk.elim
      | _ => exact hk.elim
  theorem eval_elems : (es : List Val) → (t : Ty) → WFList es t →
      evalElems t (seqElems true es) = denoteList es t
    | [], _, _ => by rw [seqElems, evalElems, denoteList]
    | v :: rest, t, ⟨hwv, hrest⟩ => by
      have hev := ((eval_valueLit v t hwv false).resolve_left (nomatch ·.2.1)).2
      rw [seqElems, evalElems, hev, eval_elems rest t hrest, denoteList]
end

/-- C10, top level: what `snippet.Value(v)` prints evaluates, at the value's type, to the value -/
theorem eval_value (v : Val) (t : Ty) (hw : WF v t) : eval (valueLit true false v) t = denote v t :=
  ((eval_valueLit v t hw false).resolve_left (nomatch ·.2.1)).2

def tStr : Ty := .scalar ['s'] ['"', '"']
def tDur : Ty := .scalar ['D'] ['0']
/-- pinned printer (F9): `*string` does not compile, `*Duration` has the wrong pointee type -/
example : eval (valueLit false false (.ptr (.leaf .string ['s'] ['"','x','"'] false))) (.ptr tStr) = none := by
  simp [valueLit, Val.kind, eval, tStr]
example : eval (valueLit false false (.ptr (.leaf (.basic ['i']) ['D'] ['5'] false))) (.ptr tDur) = none := by
  simp [valueLit, Val.kind, eval, tDur]
/-- repaired printer on the same values -/
example : eval (valueLit true false (.ptr (.leaf .string ['s'] ['"','x','"'] false))) (.ptr tStr)
    = some (.ptr (.scalar ['"','x','"'])) := by
  simp [valueLit, Val.kind, Val.tyText, eval, tStr]
example : eval (valueLit true false (.ptr (.leaf (.basic ['i']) ['D'] ['5'] false))) (.ptr tDur)
    = some (.ptr (.scalar ['5'])) := by
  simp [valueLit, Val.kind, Val.tyText, eval, tDur]

#print axioms eval_valueLit
end Gengo.Eval

namespace Gengo

/-- among `l.length + 1` values of an injective sequence one is missing from `l` -/
theorem exists_fresh {α : Type} [DecidableEq α] (l : List α) :
    ∀ (f : Nat → α), (∀ i j, f i = f j → i = j) → ∃ i, i ≤ l.length ∧ f i ∉ l := by
  intro f hf
  -- otherwise `f 0, …, f l.length` are `l.length + 1` distinct members of `l`
  apply Decidable.byContradiction
  intro hno
  have hnd : ((List.range (l.length + 1)).map f).Nodup :=
    List.nodup_range.map f fun i j hij e => hij (hf i j e)
  have hsub : (List.range (l.length + 1)).map f ⊆ l := by
    intro x hx
    obtain ⟨i, hi, rfl⟩ := List.mem_map.mp hx
    exact Decidable.byContradiction fun hx => hno ⟨i, Nat.le_of_lt_succ (List.mem_range.mp hi), hx⟩
  have := hnd.length_le_of_subset hsub
  rw [List.length_map, List.length_range] at this
  exact Nat.not_succ_le_self _ this

#print axioms exists_fresh
end Gengo

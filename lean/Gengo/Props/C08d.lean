import Gengo.Props.C08a
import Gengo.Props.Assoc
namespace Gengo.SumFile

def Distinct (m : List (Str × Str)) : Prop := (m.map (·.1)).Nodup

/-- C08 `roundtrip`: reading back what `Save` wrote yields the same mapping — every package's
    recorded hash, and nothing else -/
theorem roundtrip (m : List (Str × Str)) (hd : Distinct m) (h : ∀ e ∈ m, clean e.1 ∧ clean e.2) (k : Str) :
    loadLookup (bytes m) k = m.lookup k := by
  rw [loadLookup, load_bytes_entries m h]
  -- `Load` keeps the last binding of a key, the file is sorted: with distinct keys neither shows
  have hperm : m.Perm (sortBy (·.1) m).reverse := ((List.reverse_perm _).trans (perm_sortBy _ m)).symm
  exact (Assoc.lookup_perm hperm hd k).symm

#print axioms roundtrip
end Gengo.SumFile

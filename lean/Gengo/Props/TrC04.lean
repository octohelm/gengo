import Gengo.Gen.Code.C04
import Gengo.Props.GoRtLemmas
import Gengo.Props.C04e
/-!
`GetRegisteredGenerators` of pkg/gengo/register.go as translated (`Gengo.Code.registeredGens`; the registry map is the
parameter `reg`, a generator is identified by a string).  Without names it hands out every registered generator, in
whatever order the map is ranged: two presentations of one registry give permutations of one list — and
`Pipeline.gather_gens_perm` says that the (generator, text) pairs reaching the write phase do not depend on that order.
-/
namespace Gengo.TrC04
open Gengo Gengo.Go Gengo.GoRtLemmas

theorem loop1_spec (reg : List (Str × Str)) (hd : (reg.map (·.1)).Nodup) (l : List (Str × Str)) (hl : ∀ kv ∈ l, kv ∈ reg)
    (acc : List Str) :
    Code.registeredGens.loop1 reg l acc = pure (acc ++ l.map (·.2)) := by
  induction l generalizing acc with
  | nil => simp [Code.registeredGens.loop1]
  | cons kv rest ih =>
    rw [Code.registeredGens.loop1, mapGet_of_mem reg hd kv (hl kv List.mem_cons_self),
      ih (fun x hx => hl x (List.mem_cons_of_mem _ hx))]
    simp

theorem loop2_spec (reg : List (Str × Str)) (names : List Str) (acc : List Str) :
    Code.registeredGens.loop2 reg names acc = pure (acc ++ names.filterMap (reg.lookup ·)) := by
  induction names generalizing acc with
  | nil => simp [Code.registeredGens.loop2]
  | cons n rest ih =>
    cases hl : reg.lookup n <;> simp [Code.registeredGens.loop2, mapHas_lookup, mapGet_lookup, hl, ih]

/-- without names: every registered generator, in the order the map is ranged -/
theorem registeredGens_all (reg : List (Str × Str)) (hd : (reg.map (·.1)).Nodup) :
    Code.registeredGens reg [] = pure (reg.map (·.2)) := by
  simp [Code.registeredGens, Go.len, loop1_spec reg hd reg (fun _ h => h)]

/-- with names: those of them that are registered, in the order of the names -/
theorem registeredGens_named (reg : List (Str × Str)) (names : List Str) (hn : names ≠ []) :
    Code.registeredGens reg names = pure (names.filterMap (reg.lookup ·)) := by
  simp [Code.registeredGens, Go.len, hn, loop2_spec]

/-- C04, of the translated code: two orders in which the registry map may be ranged give permutations of one list of
    generators -/
theorem code_registered_perm (reg₁ reg₂ : List (Str × Str)) (h : reg₁.Perm reg₂) (hd : (reg₁.map (·.1)).Nodup) :
    ∃ g₁ g₂, Code.registeredGens reg₁ [] = .ok g₁ ∧ Code.registeredGens reg₂ [] = .ok g₂ ∧ g₁.Perm g₂ :=
  ⟨_, _, registeredGens_all reg₁ hd, registeredGens_all reg₂ ((h.map (·.1)).nodup_iff.mp hd), h.map (·.2)⟩

example : Code.registeredGens [("deepcopy".toList, "D".toList), ("runtimedoc".toList, "R".toList)] [] = .ok ["D".toList, "R".toList] := by
  simp only [String.reduceToList]; rfl
example : Code.registeredGens [("deepcopy".toList, "D".toList), ("runtimedoc".toList, "R".toList)]
    ["runtimedoc".toList, "nope".toList] = .ok ["R".toList] := by
  simp only [String.reduceToList]; rfl

#print axioms registeredGens_all
#print axioms registeredGens_named
#print axioms code_registered_perm
end Gengo.TrC04

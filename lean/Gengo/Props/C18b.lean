import Gengo.Props.C17b
import Gengo.Props.C17d
namespace Gengo.Heap

/-! ### C18 `copy_as_*`: what the generated `DeepCopyAs` / `DeepCopyIntoAs` compute -/

mutual
  /-- Go's zero value of a shape -/
  def zero : Shape → HV
    | .scalar => .scalar 0
    | .slice => .slice none []
    | .map => .map none []
    | .struct fs => .struct (zeros fs)
  def zeros : List Shape → List HV
    | [] => []
    | s :: ss => zero s :: zeros ss
end

/-- `DeepCopyIntoAs` on `out := new(Origin)`: origin fields in declaration order, flagged
    `true` when omitted from the partial type; `vs` are the partial value's fields (the retained
    ones, same order).  A retained field gets the statements `StructFieldsCopy` emits for its
    shape (= `deepCopy`, by `exec_choose`); an omitted one is skipped and keeps `new`'s zero. -/
def copyIntoAs : List (Bool × Shape) → List HV → Nat → List HV × Nat
  | [], _, next => ([], next)
  | (true, sh) :: fs, vs, next => let r := copyIntoAs fs vs next; (zero sh :: r.1, r.2)
  | (false, sh) :: fs, v :: vs, next =>
    let c := exec (choose sh) v next
    let r := copyIntoAs fs vs c.2
    (c.1 :: r.1, r.2)
  | (false, _) :: _, [], next => ([], next)

/-- `DeepCopyAs`: `nil` receiver ↦ `nil` -/
def deepCopyAs (fs : List (Bool × Shape)) : Option (List HV) → Nat → Option (List HV)
  | none, _ => none
  | some vs, next => some (copyIntoAs fs vs next).1

/-- the values at the positions flagged `b` -/
def pick (b : Bool) : List (Bool × Shape) → List HV → List HV
  | (b', _) :: fs, v :: vs => if b' = b then v :: pick b fs vs else pick b fs vs
  | _, _ => []

def shapesOf (b : Bool) (fs : List (Bool × Shape)) : List Shape := (fs.filter (·.1 = b)).map (·.2)

theorem copy_as_nil (fs : List (Bool × Shape)) (next : Nat) : deepCopyAs fs none next = none := rfl

mutual
  theorem zero_ids : (s : Shape) → (zero s).ids = []
    | .scalar | .slice | .map => rfl
    | .struct fs => zeros_ids fs
  theorem zeros_ids : (ss : List Shape) → idsList (zeros ss) = []
    | [] => rfl
    | s :: ss => by rw [zeros, idsList, zero_ids s, zeros_ids ss]; rfl
end

/-- `copyIntoAs` deep-copies the partial value's fields as one list (`deepCopyList`, allocator included) and
    sets the zero values of the omitted fields between the copies. -/
theorem copyIntoAs_eq (fs : List (Bool × Shape)) (vs : List HV) (h : HasShapes vs (shapesOf false fs)) (next : Nat) :
    (copyIntoAs fs vs next).2 = (deepCopyList vs next).2 ∧
    pick false fs (copyIntoAs fs vs next).1 = (deepCopyList vs next).1 ∧
    idsList (copyIntoAs fs vs next).1 = idsList (deepCopyList vs next).1 ∧
    pick true fs (copyIntoAs fs vs next).1 = zeros (shapesOf true fs) ∧
    (copyIntoAs fs vs next).1.length = fs.length := by
  -- the clauses of `copyIntoAs`: no field left; an omitted field; a retained field and its value; a retained field
  -- without one.  `pick` and `shapesOf` compute on a list that starts with a known flag, so `h` is about the
  -- remaining fields
  fun_induction copyIntoAs fs vs next with
  | case1 vs =>
    cases vs with
    | nil => exact ⟨rfl, rfl, rfl, rfl, rfl⟩
    | cons => exact h.elim
  | case2 sh _ _ _ _ ih =>
    obtain ⟨h1, h2, h3, h4, h5⟩ := ih h
    exact ⟨h1, h2, (congrArg (· ++ _) (zero_ids sh)).trans h3, congrArg (zero sh :: ·) h4, congrArg (· + 1) h5⟩
  | case3 sh _ v _ next c r ih =>
    simp only [c, r, exec_choose v sh h.1 next] at ih ⊢
    obtain ⟨h1, h2, h3, h4, h5⟩ := ih h.2
    exact ⟨h1, congrArg (_ :: ·) h2, congrArg (_ ++ ·) h3, h4, congrArg (· + 1) h5⟩
  | case4 => exact h.elim

/-- C18 `copy_as_retained_equal_omitted_zero` (and no sharing): for a partial value whose
    fields have the retained fields' shapes, the result has one field per origin field; the
    retained positions are deeply equal to the partial value's fields, the omitted positions hold
    Go's zero values, and every container identity in the result is fresh. -/
theorem copyIntoAs_spec : (fs : List (Bool × Shape)) → (vs : List HV) → HasShapes vs (shapesOf false fs) → ∀ next,
    let r := copyIntoAs fs vs next
    r.1.length = fs.length ∧
    eraseList (pick false fs r.1) = eraseList vs ∧
    pick true fs r.1 = zeros (shapesOf true fs) ∧
    next ≤ r.2 ∧ ∀ i ∈ idsList r.1, next ≤ i ∧ i < r.2 := by
  intro fs vs h next
  obtain ⟨h1, h2, h3, h4, h5⟩ := copyIntoAs_eq fs vs h next
  obtain ⟨k1, k2, k3⟩ := deepCopyList_spec vs next
  simp only [h1, h2, h3]
  exact ⟨h5, k3, h4, k1, k2⟩

/-- no container is shared between the partial value and the origin value built from it -/
theorem copy_as_no_sharing (fs : List (Bool × Shape)) (vs : List HV) (h : HasShapes vs (shapesOf false fs))
    (next : Nat) (hfresh : ∀ i ∈ idsList vs, i < next) :
    ∀ i ∈ idsList (copyIntoAs fs vs next).1, i ∉ idsList vs := by
  intro i hi hv
  exact Nat.not_lt.mpr ((copyIntoAs_spec fs vs h next).2.2.2.2 i hi).1 (hfresh i hv)

-- non-vacuity: a three-field origin, middle field omitted
example : deepCopyAs [(false, .slice), (true, .map), (false, .scalar)] (some [.slice (some 3) [1, 2], .scalar 7]) 10
    = some [.slice (some 10) [1, 2], .map none [], .scalar 7] := rfl

#print axioms copyIntoAs_spec
end Gengo.Heap

namespace Gengo.PartialAccept
/-! ### C18 `reject_*`: the acceptance decision of `GenerateType` (devpkg/partialstruct/partialstruct.go) -/

inductive Rhs where
  | ident (isTypeName : Bool)        -- `type X Y`: `ObjectOf(Y)` is a `*types.TypeName` or not
  | selector (isTypeName : Bool)     -- `type X pkg.Y`
  | other                            -- `type X struct{…}`, `type X []Y`, `type X G[A]`, …

inductive Err | notStruct | noOrigin
deriving DecidableEq

/-- `underlyingIsStruct` = `named.Underlying().(*types.Struct)` succeeds -/
def accept (underlyingIsStruct : Bool) (rhs : Rhs) : Except Err Unit :=
  if !underlyingIsStruct then .error .notStruct
  else match rhs with
    | .ident true | .selector true => .ok ()
    | _ => .error .noOrigin

theorem reject_non_struct (rhs : Rhs) : accept false rhs = .error .notStruct := rfl

theorem reject_no_origin : accept true .other = .error .noOrigin ∧ accept true (.ident false) = .error .noOrigin ∧
    accept true (.selector false) = .error .noOrigin := ⟨rfl, rfl, rfl⟩

/-- a generator call is accepted exactly for a struct declared from a named origin -/
theorem accept_iff (u : Bool) (rhs : Rhs) :
    accept u rhs = .ok () ↔ u = true ∧ (rhs = .ident true ∨ rhs = .selector true) := by
  cases u <;> cases rhs with
  | ident b | selector b => cases b <;> simp [accept]
  | other => simp [accept]
end Gengo.PartialAccept

namespace Gengo.PartialGeneric
/-! ### C18 `copy_as`, independent of the field kinds

The same statement for *any* kind of field value (pointers, foreign named types, interfaces …):
nothing is assumed of the per-field copy statement `copyF`, the retained positions hold its
results.  That such a result equals its source is `exec_choose` + `deepCopy_alloc` for the C17
domain; for the other kinds of C18's domain the executed probe checks it with `reflect.DeepEqual`. -/

variable {V F : Type}

/-- origin fields in declaration order, flagged `true` when omitted; `vs` = the partial value's
    fields (the retained ones, same order); `none` = the two do not fit (ill-typed input) -/
def copyIntoAs (copyF : F → V → V) (zeroF : F → V) : List (Bool × F) → List V → Option (List V)
  | [], [] => some []
  | [], _ :: _ => none
  | (true, f) :: fs, vs => (copyIntoAs copyF zeroF fs vs).map (zeroF f :: ·)
  | (false, f) :: fs, v :: vs => (copyIntoAs copyF zeroF fs vs).map (copyF f v :: ·)
  | (false, _) :: _, [] => none

def deepCopyAs (copyF : F → V → V) (zeroF : F → V) (fs : List (Bool × F)) : Option (List V) → Option (Option (List V))
  | none => some none                       -- nil receiver ↦ nil
  | some vs => (copyIntoAs copyF zeroF fs vs).map some

/-- the values at the positions flagged `b` -/
def pick (b : Bool) : List (Bool × F) → List V → List V
  | (b', _) :: fs, v :: vs => if b' = b then v :: pick b fs vs else pick b fs vs
  | _, _ => []

theorem copy_as_nil (copyF : F → V → V) (zeroF : F → V) (fs : List (Bool × F)) :
    deepCopyAs copyF zeroF fs none = some none := rfl

/-- retained fields are copies of the source's fields (pointwise, in order), omitted fields are
    zero, and there is exactly one result field per origin field -/
theorem copy_as_spec (copyF : F → V → V) (zeroF : F → V) :
    ∀ (fs : List (Bool × F)) (vs out : List V), copyIntoAs copyF zeroF fs vs = some out →
      out.length = fs.length ∧
      pick false fs out = ((fs.filter (·.1 = false)).zip vs).map (fun x => copyF x.1.2 x.2) ∧
      pick true fs out = (fs.filter (·.1 = true)).map (fun x => zeroF x.2) ∧
      vs.length = (fs.filter (·.1 = false)).length := by
  intro fs vs
  -- the clauses of `copyIntoAs`: nothing left; values left over; an omitted field; a retained field and its value; a
  -- retained field without one.  `h` says that `out` is the result for the remaining fields with `zeroF f` resp.
  -- `copyF f v` in front; `pick`, `filter` and `zip` compute on a list that starts with a known flag
  fun_induction copyIntoAs copyF zeroF fs vs with
  | case1 =>
    intro out h
    cases h
    exact ⟨rfl, rfl, rfl, rfl⟩
  | case2 | case5 => exact fun _ h => nomatch h
  | case3 f fs vs ih =>
    intro out h
    obtain ⟨out', h', rfl⟩ := Option.map_eq_some_iff.mp h
    obtain ⟨h1, h2, h3, h4⟩ := ih out' h'
    exact ⟨congrArg (· + 1) h1, h2, congrArg (zeroF f :: ·) h3, h4⟩
  | case4 f fs v vs ih =>
    intro out h
    obtain ⟨out', h', rfl⟩ := Option.map_eq_some_iff.mp h
    obtain ⟨h1, h2, h3, h4⟩ := ih out' h'
    exact ⟨congrArg (· + 1) h1, congrArg (copyF f v :: ·) h2, h3, congrArg (· + 1) h4⟩

#print axioms copy_as_spec
end Gengo.PartialGeneric

import Gengo.Model.Dumper
import Gengo.Props.Order
namespace Gengo.Dumper

theorem mapEntries_eq_map (fixed sub : Bool) (es : List (Val × Val)) :
    mapEntries fixed sub es = es.map fun kv => ((valueLit fixed sub kv.1).show, valueLit fixed sub kv.2) := by
  induction es with
  | nil => rfl
  | cons e es ih => rw [mapEntries, ih, List.map_cons]

/-- C10 `map_order_fixed`: the text printed for a map does not depend on the order in which Go's
    `MapKeys` delivers the entries — provided distinct keys print differently (which the leaf
    printers guarantee: distinct scalars have distinct literals) -/
theorem map_order_fixed (fixed sub : Bool) (ty : Str) {es₁ es₂ : List (Val × Val)} (h : es₁.Perm es₂)
    (hd : ∀ a ∈ mapEntries fixed (if fixed then false else sub) es₁,
          ∀ b ∈ mapEntries fixed (if fixed then false else sub) es₁, a.1 = b.1 → a = b) :
    valueLit fixed sub (.map ty es₁) = valueLit fixed sub (.map ty es₂) := by
  simp only [valueLit]
  have hp : (mapEntries fixed (if fixed then false else sub) es₁).Perm
      (mapEntries fixed (if fixed then false else sub) es₂) := by
    rw [mapEntries_eq_map, mapEntries_eq_map]
    exact h.map _
  rw [sortBy_perm (·.1) hp hd]

#print axioms map_order_fixed
end Gengo.Dumper

import Gengo.Model.TypeRef
import Gengo.Props.Index
/-!
C15 `parse_print`: `ParseTypeRef` gives back every well-formed reference that `String` printed.  The argument list is
cut by `splitTop`: its step equations, what it does with a printed reference (absorbed whole, the depth restored:
`splitTop_print`) and with a printed argument list (cut at exactly its own commas: `splitTop_args`); then the two
branches of `parse`.
-/
namespace Gengo.TypeRef

def plain (s : Str) : Prop := '[' ∉ s ∧ ']' ∉ s ∧ ',' ∉ s

mutual
  /-- well-formed reference: bracket/comma-free path and name, non-empty dot-free name -/
  def WF : TRef → Prop
    | .mk pkg name args => plain pkg ∧ plain name ∧ name ≠ [] ∧ '.' ∉ name ∧ WFs args
  def WFs : List TRef → Prop
    | [] => True
    | a :: as => WF a ∧ WFs as
end

mutual
  def TRef.depth : TRef → Nat
    | .mk _ _ args => depths args + 1
  def depths : List TRef → Nat
    | [] => 0
    | a :: as => max a.depth (depths as)
end

theorem splitTop_open (cs : Str) (d : Int) (cur : Str) :
    splitTop true ('[' :: cs) d cur = splitTop true cs (d + 1) ('[' :: cur) := rfl

theorem splitTop_close (cs : Str) (d : Int) (cur : Str) :
    splitTop true (']' :: cs) d cur = splitTop true cs (d - 1) (']' :: cur) := rfl

theorem splitTop_comma_zero (cs cur : Str) :
    splitTop true (',' :: cs) 0 cur = cur.reverse :: splitTop true cs 0 [] := rfl

theorem splitTop_comma_inner (cs : Str) {d : Int} (hd : d ≠ 0) (cur : Str) :
    splitTop true (',' :: cs) d cur = splitTop true cs d (',' :: cur) := by
  simp [splitTop, hd]

theorem splitTop_other {c : Char} (h1 : c ≠ '[') (h2 : c ≠ ']') (h3 : c ≠ ',') (cs : Str) (d : Int) (cur : Str) :
    splitTop true (c :: cs) d cur = splitTop true cs d (c :: cur) := by
  simp [splitTop, h1, h2, h3]

theorem splitTop_plain {s : Str} (hs : plain s) (rest : Str) (d : Int) (cur : Str) :
    splitTop true (s ++ rest) d cur = splitTop true rest d (s.reverse ++ cur) := by
  induction s generalizing cur with
  | nil => rfl
  | cons c cs ih =>
    obtain ⟨h1, h2, h3⟩ := hs
    rw [List.cons_append, splitTop_other (List.ne_of_not_mem_cons h1).symm (List.ne_of_not_mem_cons h2).symm
      (List.ne_of_not_mem_cons h3).symm, ih ⟨List.not_mem_of_not_mem_cons h1, List.not_mem_of_not_mem_cons h2,
      List.not_mem_of_not_mem_cons h3⟩, List.reverse_cons, List.append_assoc, List.singleton_append]

/-- what is printed in front of the argument list -/
def headOf (pkg name : Str) : Str := (if pkg.isEmpty then [] else pkg ++ ['.']) ++ name

theorem print_nil (pkg name : Str) : (TRef.mk pkg name []).print = headOf pkg name := by
  simp [TRef.print, headOf]

theorem print_cons (pkg name : Str) (a : TRef) (as : List TRef) :
    (TRef.mk pkg name (a :: as)).print = headOf pkg name ++ '[' :: (a.print ++ printTail as ++ [']']) := by
  simp [TRef.print, headOf]

theorem plain_headOf {pkg name : Str} (hp : plain pkg) (hn : plain name) : plain (headOf pkg name) := by
  obtain ⟨a1, a2, a3⟩ := hp
  obtain ⟨b1, b2, b3⟩ := hn
  unfold headOf
  split <;> simp [plain, *]

mutual
  /-- a printed reference scanned at any depth ≥ 0 is absorbed whole and the depth returns -/
  theorem splitTop_print : (t : TRef) → WF t → ∀ (rest : Str) (d : Int) (cur : Str), 0 ≤ d →
      splitTop true (t.print ++ rest) d cur = splitTop true rest d (t.print.reverse ++ cur)
    | .mk pkg name [], h, rest, d, cur, _ => by
      rw [print_nil]
      exact splitTop_plain (plain_headOf h.1 h.2.1) rest d cur
    | .mk pkg name (a :: as), h, rest, d, cur, hd => by
      obtain ⟨hp, hn, _, _, ha, has⟩ := h
      rw [print_cons]
      simp only [List.append_assoc, List.cons_append, List.nil_append]
      rw [splitTop_plain (plain_headOf hp hn), splitTop_open, splitTop_print a ha _ (d + 1) _ (Int.le_add_one hd),
        splitTop_tail as has _ (d + 1) _ (Int.le_add_of_nonneg_left hd), splitTop_close, Int.add_sub_cancel]
      simp
  /-- a printed argument tail scanned at depth ≥ 1: its commas do not split -/
  theorem splitTop_tail : (as : List TRef) → WFs as → ∀ (rest : Str) (d : Int) (cur : Str), 1 ≤ d →
      splitTop true (printTail as ++ rest) d cur = splitTop true rest d ((printTail as).reverse ++ cur)
    | [], _, rest, d, cur, _ => rfl
    | a :: as, h, rest, d, cur, hd => by
      have hpos : 0 < d := hd
      rw [printTail, List.cons_append, List.append_assoc, splitTop_comma_inner _ (Int.ne_of_gt hpos),
        splitTop_print a h.1 _ d _ (Int.le_of_lt hpos), splitTop_tail as h.2 _ d _ hd]
      simp
end

theorem splitTop_args : (a : TRef) → (as : List TRef) → WF a → WFs as → ∀ (cur : Str),
    splitTop true (a.print ++ printTail as) 0 cur = (cur.reverse ++ a.print) :: as.map TRef.print
  | a, [], ha, _, cur => by
    have := splitTop_print a ha [] 0 cur (Int.le_refl 0)
    simpa [printTail, splitTop] using this
  | a, b :: as, ha, h, cur => by
    rw [printTail, splitTop_print a ha _ 0 cur (Int.le_refl 0), splitTop_comma_zero, splitTop_args b as h.1 h.2]
    simp

theorem parseFlat_head (pkg name : Str) (hd : '.' ∉ name) :
    parseFlat (headOf pkg name) = .mk pkg name [] := by
  unfold headOf parseFlat
  cases pkg with
  | nil => simp [lastIndexOf?_none '.' name hd]
  | cons p ps =>
    have : (p :: ps ++ ['.']) ++ name = (p :: ps) ++ '.' :: name := by simp
    simp only [List.isEmpty_cons, Bool.false_eq_true, if_false, this, lastIndexOf?_append '.' _ _ hd]
    simp

theorem parse_flat (b : Bool) (fuel : Nat) (s : Str) (h : '[' ∉ s) :
    parse b (fuel + 1) s = some (parseFlat s) := by
  rw [parse, indexOf?_none _ _ h]

/-- `head[body]`: the head is parsed for path and name, the body is cut at its top-level commas and the
    pieces are parsed as the arguments -/
theorem parse_brackets {b : Bool} {fuel : Nat} {head body : Str} (h : '[' ∉ head) (hne : head ≠ []) :
    parse b (fuel + 1) (head ++ '[' :: (body ++ [']'])) =
      match parse b fuel head with
      | none => none
      | some (.mk p n _) => ((splitTop b body 0 []).mapM (parse b fuel)).map (.mk p n) := by
  have hlast : lastIndexOf? ']' (head ++ '[' :: (body ++ [']'])) = some (head.length + (body.length + 1)) := by
    rw [← List.cons_append, ← List.append_assoc, lastIndexOf?_append ']' _ [] List.not_mem_nil]
    simp
  rw [parse, indexOf?_append '[' head _ h, hlast]
  simp [List.length_pos_iff.mpr hne]
  rfl

theorem parse_head {fuel : Nat} (hf : 0 < fuel) {pkg name : Str} (hp : plain pkg) (hn : plain name)
    (hd : '.' ∉ name) : parse true fuel (headOf pkg name) = some (.mk pkg name []) := by
  obtain ⟨k, rfl⟩ := Nat.exists_eq_add_one_of_ne_zero (Nat.ne_of_gt hf)
  rw [parse_flat _ _ _ (plain_headOf hp hn).1, parseFlat_head pkg name hd]

theorem TRef.depth_pos (t : TRef) : 0 < t.depth := by
  cases t; exact Nat.succ_pos _

theorem depths_cons_le {a : TRef} {as : List TRef} {k : Nat} :
    depths (a :: as) ≤ k ↔ a.depth ≤ k ∧ depths as ≤ k := Nat.max_le

mutual
  /-- C15 `parse_print`: printing a well-formed reference and parsing it back gives the same
      tree, at any nesting depth and width. -/
  theorem parse_print : (t : TRef) → WF t → ∀ fuel, t.depth ≤ fuel → parse true fuel t.print = some t
    | t, _, 0, hf => absurd hf (Nat.not_le_of_gt t.depth_pos)
    | .mk pkg name [], h, fuel + 1, _ => by
      rw [print_nil]
      exact parse_head (Nat.succ_pos _) h.1 h.2.1 h.2.2.2.1
    | .mk pkg name (a :: as), h, fuel + 1, hf => by
      obtain ⟨hp, hn, hne, hd, ha, has⟩ := h
      -- one unit of fuel is spent on this level; the arguments need at least one more
      have hk : depths (a :: as) ≤ fuel := Nat.le_of_succ_le_succ hf
      have hpos : 0 < fuel := Nat.lt_of_lt_of_le a.depth_pos (depths_cons_le.mp hk).1
      rw [print_cons, parse_brackets (plain_headOf hp hn).1 (by simp [headOf, hne]),
        parse_head hpos hp hn hd]
      rw [splitTop_args a as ha has, List.reverse_nil, List.nil_append, ← List.map_cons,
        parse_prints (a :: as) ⟨ha, has⟩ fuel hk]
      rfl
  theorem parse_prints : (as : List TRef) → WFs as → ∀ fuel, depths as ≤ fuel →
      (as.map TRef.print).mapM (parse true fuel) = some as
    | [], _, _, _ => rfl
    | a :: as, h, fuel, hf => by
      obtain ⟨h1, h2⟩ := depths_cons_le.mp hf
      simp [List.mapM_cons, parse_print a h.1 fuel h1, parse_prints as h.2 fuel h2]
end

/-- the pinned code (boolean flag) fails on a comma after a doubly nested bracket (F4):
    `M[L[P[a,b],c]]` -/
example :
    let v (s : String) : TRef := .mk [] s.toList []
    let t : TRef := .mk [] ['M'] [.mk [] ['L'] [.mk [] ['P'] [v "a", v "b"], v "c"]]
    (parse false 10 t.print).isNone = true ∧ (parse true 10 t.print).map TRef.print = some t.print := by
  decide

#print axioms parse_print
end Gengo.TypeRef

import Gengo.Model.Sprintf
namespace Gengo.Sprintf

/-! C09 for `Sprintf`: the format as a list of tokens that does not depend on the arguments, and the substitution of the
arguments' renderings into it. -/

/-- what a format string *is*, independent of the arguments -/
inductive Tok where
  | ch (c : Char)      -- any character outside a verb: verbatim
  | v | t              -- `%v`, `%T`
  | pct                -- `%%`
  | bad                -- `%` followed by anything else, or at the end: panic
deriving DecidableEq

def tokens : Str → List Tok
  | [] => []
  | [c] => if c == '%' then [.bad] else [.ch c]
  | c :: v :: rest =>
    if c == '%' then
      if v == 'T' then .t :: tokens rest
      else if v == 'v' then .v :: tokens rest
      else if v == '%' then .pct :: tokens rest
      else [.bad]
    else .ch c :: tokens (v :: rest)

/-- substitution: verbs consume the arguments left to right, each replaced by the argument's
    complete rendering (which is not scanned again); `none` = panic -/
def subst : List Tok → List Arg → Option Str
  | [], _ => some []
  | .ch c :: ts, args => (subst ts args).map (c :: ·)
  | .pct :: ts, args => (subst ts args).map ('%' :: ·)
  | .bad :: _, _ => none
  | .v :: _, [] => none
  | .v :: ts, a :: args => match a.asV with
    | none => none
    | some s => (subst ts args).map (s ++ ·)
  | .t :: _, [] => none
  | .t :: ts, a :: args => match a.asT with
    | none => none
    | some s => (subst ts args).map (s ++ ·)

theorem tokens_lit {c : Char} (hc : c ≠ '%') (r : Str) : tokens (c :: r) = .ch c :: tokens r := by
  cases r <;> simp [tokens, hc]

theorem scan_eq_subst : ∀ (fuel : Nat) (l : Str) (args : List Arg), l.length < fuel →
    scan true fuel l args = subst (tokens l) args := by
  intro fuel
  induction fuel with
  | zero => intro l args h; omega
  | succ fuel ih =>
    intro l args h
    cases l with
    | nil => rfl
    | cons c r =>
      have hr : r.length < fuel := by simpa using h
      simp only [scan]
      by_cases hc : c = '%'
      · subst hc
        cases r with
        | nil => rfl
        | cons v rest =>
          have h2 := fun args => ih rest args (by rw [List.length_cons] at hr; omega)
          simp only [tokens]
          by_cases hv : v = 'T' ∨ v = 'v'
          · -- a verb: `scan` tests for the two at once, `tokens` one after the other; both then ask for an argument
            -- (`rfl`: the tests on the literal verb evaluate, and the two sides are the same `match`es)
            rcases hv with rfl | rfl <;> cases args with
            | nil => rfl
            | cons a args => simp only [h2]; rfl
          · rw [not_or] at hv
            by_cases hp : v = '%' <;> simp [subst, hv, hp, h2]
      · rw [if_neg (by simpa using hc), tokens_lit hc, subst, ih r args hr]

/-- C09 `sprintf_spec`: the repaired `Sprintf` scanner is tokenise-then-substitute -/
theorem sprintf_spec (fmt : Str) (args : List Arg) : sprintf true fmt args = subst (tokens fmt) args :=
  scan_eq_subst _ fmt args (by simp)

/-- pinned code: `%%` is not a percent sign (F6) — the equation fails on the shortest input -/
example : sprintf false "%%".toList [] ≠ subst (tokens "%%".toList) [] := by
  simp only [String.reduceToList]; decide

#print axioms sprintf_spec
end Gengo.Sprintf

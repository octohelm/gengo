import Gengo.Props.C08d
import Gengo.Props.C08c
import Gengo.Props.C08b
import Gengo.Props.Assoc
/-!
C08 at the level of the *file*: the history model of `Props/C08c` keeps `gengo.sum` as an abstract
mapping; here the sum file is the byte string `SumFile.bytes` writes and `SumFile.loadLookup` reads
back, and the skip decision is the code's own comparison (`Sum(path)`, `""` for a missing entry,
against the current hash).  `roundtrip` (`Props/C08d`) is what connects the two: under the conditions
the real inputs meet — package paths and hashes are non-empty and free of white space, the package
list has no duplicates — every theorem of the abstract history holds of the bytes on disk, and the
third run leaves the file byte for byte as the second run wrote it.
-/
namespace Gengo.CacheFile
open Gengo.SumFile

/-- the world: package contents (abstract) and the bytes of `gengo.sum` (`none`: missing or unreadable) -/
structure WF where
  content : Str → Nat
  file : Option Str

structure SysF where
  hash : Nat → Str
  gen : Str → Nat → Nat
  pkgs : List Str                                    -- the local packages of the load, as `LocalPkgPaths` lists them
  hash_inj : ∀ a b, hash a = hash b → a = b
  gen_idem : ∀ p c, gen p (gen p c) = gen p c
  pkgs_nodup : pkgs.Nodup
  pkgs_clean : ∀ p ∈ pkgs, clean p
  hash_clean : ∀ c, clean (hash c)

/-- what `Execute` hands to `Save`: one entry per local package, the hash of the directory as loaded -/
def entries (s : SysF) (w : WF) : List (Str × Str) := s.pkgs.map fun p => (p, s.hash (w.content p))

/-- `pkgChanged` as the code computes it (repaired): Force, or no readable sum file, or `Sum(path) != hash` -/
def changedF (s : SysF) (force : Bool) (w : WF) (p : Str) : Bool :=
  force || match w.file with
    | none => true
    | some data => (loadLookup data p).getD [] != s.hash (w.content p)

def runF (s : SysF) (force : Bool) (w : WF) : WF where
  content := fun p => if s.pkgs.contains p && changedF s force w p then s.gen p (w.content p) else w.content p
  file := some (bytes (entries s w))

theorem entries_keys (s : SysF) (w : WF) : (entries s w).map (·.1) = s.pkgs := by
  rw [entries, List.map_map]
  exact List.map_id _

theorem entries_distinct (s : SysF) (w : WF) : Distinct (entries s w) := by
  rw [Distinct, entries_keys]
  exact s.pkgs_nodup

theorem entries_clean (s : SysF) (w : WF) : ∀ e ∈ entries s w, clean e.1 ∧ clean e.2 := by
  intro e he
  obtain ⟨p, hp, rfl⟩ := List.mem_map.mp he
  exact ⟨s.pkgs_clean p hp, s.hash_clean _⟩

theorem entries_lookup (s : SysF) (w : WF) {p : Str} (hp : p ∈ s.pkgs) :
    (entries s w).lookup p = some (s.hash (w.content p)) :=
  Assoc.lookup_of_mem (entries_distinct s w) (List.mem_map.mpr ⟨p, hp, rfl⟩)

theorem read_entries (s : SysF) (w : WF) {p : Str} (hp : p ∈ s.pkgs) :
    loadLookup (bytes (entries s w)) p = some (s.hash (w.content p)) := by
  rw [roundtrip (entries s w) (entries_distinct s w) (entries_clean s w) p]
  exact entries_lookup s w hp

/-- what a later run reads for a listed package is what the earlier run recorded: the hash of the
    directory *as that run loaded it* -/
theorem read_back (s : SysF) (f : Bool) (w : WF) {p : Str} (hp : p ∈ s.pkgs) :
    ∃ data, (runF s f w).file = some data ∧ loadLookup data p = some (s.hash (w.content p)) :=
  ⟨_, rfl, read_entries s w hp⟩

/-- the file-level decision is the abstract one: with non-empty hashes, comparing `Sum(path)` (empty
    for a missing entry) with the current hash is comparing the looked-up entry with `some hash` -/
theorem changedF_eq_abstract (s : SysF) (force : Bool) (w : WF) (p : Str) :
    changedF s force w p =
      (force || match w.file with
        | none => true
        | some data => loadLookup data p != some (s.hash (w.content p))) := by
  unfold changedF
  cases w.file with
  | none => rfl
  | some data => exact congrArg (force || ·) (Pipeline.getD_nil_bne _ (s.hash_clean _).1)

/-- C08 `skip_sound`, file form: a listed package skipped by a non-forced run has exactly the contents
    whose hash the sum file on disk holds for it -/
theorem skip_means_recorded (s : SysF) (w : WF) (p : Str) (h : changedF s false w p = false) :
    ∃ data, w.file = some data ∧ loadLookup data p = some (s.hash (w.content p)) := by
  rw [changedF_eq_abstract] at h
  cases hf : w.file with
  | none => simp [hf] at h
  | some data => exact ⟨data, rfl, by simpa [hf] using h⟩

theorem runF_content (s : SysF) (f : Bool) (w : WF) {p : Str} (hp : p ∈ s.pkgs) :
    (runF s f w).content p = if changedF s f w p then s.gen p (w.content p) else w.content p := by
  show (if s.pkgs.contains p && changedF s f w p then _ else _) = _
  rw [List.contains_iff_mem.mpr hp, Bool.true_and]

/-! The file-level system refines the history model of `Props/C08c`, package by package: a listed package has the
    same contents in both worlds, and its entry read back from the file is its entry in the abstract sum. -/

def SysF.toSys (s : SysF) : CacheHistory.Sys :=
  { hash := s.hash, gen := s.gen, hash_inj := s.hash_inj, gen_idem := s.gen_idem }

def Refines (p : Str) (wf : WF) (w : CacheHistory.W) : Prop :=
  wf.content p = w.content p ∧ wf.file.map (loadLookup · p) = w.sum.map (· p)

theorem refines_self (w : WF) (p : Str) : Refines p w ⟨w.content, w.file.map loadLookup⟩ :=
  ⟨rfl, by cases w.file <;> rfl⟩

theorem Refines.changed {s : SysF} {p : Str} {wf : WF} {w : CacheHistory.W} (h : Refines p wf w) (f : Bool) :
    changedF s f wf p = CacheHistory.changed s.toSys f w p := by
  rw [changedF_eq_abstract, CacheHistory.changed_eq, ← h.1, ← h.2]
  cases wf.file <;> rfl

/-- one run of each system keeps a listed package in correspondence (`read_entries`: the entry written is read back) -/
theorem Refines.run {s : SysF} {p : Str} (hp : p ∈ s.pkgs) {wf : WF} {w : CacheHistory.W} (h : Refines p wf w)
    (f : Bool) : Refines p (runF s f wf) (CacheHistory.run s.toSys f w) := by
  constructor
  · rw [runF_content s f wf hp, CacheHistory.run_content, h.changed, h.1]; rfl
  · show some (loadLookup (bytes (entries s wf)) p) = some (some (s.hash (w.content p)))
    rw [read_entries s wf hp, h.1]

/-- the second of two runs finds, for every listed package, either what the first run generated
    (generating again changes nothing) or what it left alone -/
theorem second_run_content (s : SysF) (f₁ : Bool) (w : WF) {p : Str} (hp : p ∈ s.pkgs) :
    (runF s false (runF s f₁ w)).content p = (runF s f₁ w).content p := by
  have h₁ := (refines_self w p).run hp f₁
  exact (h₁.run hp false).1.trans ((CacheHistory.content_stable ..).trans h₁.1.symm)

/-- C08 `converges`, file form: on unchanged inputs the third run regenerates no listed package, changes
    no listed package's contents, and writes `gengo.sum` byte for byte as the second run wrote it -/
theorem converges_bytes (s : SysF) (f₁ : Bool) (w : WF) :
    let w₂ := runF s false (runF s f₁ w)
    (∀ p ∈ s.pkgs, changedF s false w₂ p = false) ∧
    (∀ p ∈ s.pkgs, (runF s false w₂).content p = w₂.content p) ∧
    (runF s false w₂).file = w₂.file := by
  intro w₂
  -- the third run is the second run after `runF s f₁ w`
  refine ⟨fun p hp => ?_, fun p hp => second_run_content s false _ hp, ?_⟩
  · have h₂ := ((refines_self w p).run hp f₁).run hp false
    exact (h₂.changed false).trans (CacheHistory.converges ..).1
  · -- the entries written are the hashes of the listed packages' contents, which the second run left alone
    exact congrArg (some ∘ bytes) (List.map_congr_left fun p hp => by rw [second_run_content s f₁ w hp])

def demoHash (n : Nat) : Str := 'h' :: List.replicate n 'x'

theorem demoHash_inj (a b : Nat) (h : demoHash a = demoHash b) : a = b := by
  simpa [demoHash] using congrArg List.length h

theorem demoHash_clean (n : Nat) : clean (demoHash n) := by
  refine ⟨by simp [demoHash], ?_⟩
  intro c hc
  simp only [demoHash, List.mem_cons, List.mem_replicate] at hc
  rcases hc with rfl | ⟨_, rfl⟩ <;> decide

/-- a concrete system meeting every hypothesis: two packages, hashes `h` followed by as many `x` as
    the contents count, a generator that normalises contents to 7 -/
def demo : SysF where
  hash := demoHash
  gen := fun _ _ => 7
  pkgs := ["m/a".toList, "m/b".toList]
  hash_inj := demoHash_inj
  gen_idem := fun _ _ => rfl
  pkgs_nodup := by decide
  pkgs_clean := by
    intro p hp
    simp only [List.mem_cons, List.not_mem_nil, or_false] at hp
    rcases hp with rfl | rfl <;> exact ⟨by decide, by decide⟩
  hash_clean := demoHash_clean

/-- the hypotheses are met by a system in which the first run does generate and the sum file is not trivial -/
example :
    (runF demo false ⟨fun _ => 3, none⟩).content "m/a".toList = 7 ∧
    (runF demo false ⟨fun _ => 3, none⟩).file = some "m/a hxxx\nm/b hxxx\n".toList := by
  refine ⟨by decide, ?_⟩
  simp [runF, entries, demo, demoHash, bytes, line, sortBy, List.mergeSort, lexLe]

#print axioms converges_bytes
#print axioms skip_means_recorded
end Gengo.CacheFile

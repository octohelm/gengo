import Gengo.Model.Inflect
/-!
C20 `irregular_prefix` (`Model/Inflect`): what stands before the irregular word is kept and the word is inflected as on
its own.  `findAux` keeps the last matching split point; inside a run of word characters there is no `\b`
(`findAux_inside`), so the split in front of the word is the one found (`find_prefix`).  In front: F2 and F3 on the
pinned code, in a configuration with Go's folding of U+017F.
-/
namespace Gengo.Inflect

def asciiLower (c : Char) : Char := if 'A' ≤ c ∧ c ≤ 'Z' then Char.ofNat (c.toNat + 32) else c
def asciiWord (c : Char) : Bool :=
  ('0' ≤ c && c ≤ '9') || ('A' ≤ c && c ≤ 'Z') || ('a' ≤ c && c ≤ 'z') || c == '_'

/-- a configuration with Go's behaviour on the runes used below: `(?i)s` also matches U+017F
    (long s), which `ToLower` leaves alone -/
def goCfg : Cfg where
  table := [("person".toList, "people".toList), ("man".toList, "men".toList)]
  foldEq := fun a b => asciiLower a == b || (a == 'ſ' && b == 's')
  lower := asciiLower
  isWord := asciiWord

/-- pinned code (F2): the first character of the *whole input* is spliced in -/
example : irregular goCfg false "old-person".toList = .ok "old-oeople".toList := by
  simp only [String.reduceToList]; decide
example : irregular goCfg false "wood-man".toList = .ok "wood-wen".toList := by
  simp only [String.reduceToList]; decide
/-- pinned code (F3): a rune that folds to a table letter but does not lower-case to it panics -/
example : irregular goCfg false "perſon".toList = .panic := by
  simp only [String.reduceToList]; decide
/-- repaired code -/
example : irregular goCfg true "old-person".toList = .ok "old-people".toList := by
  simp only [String.reduceToList]; decide
example : irregular goCfg true "Old-Person".toList = .ok "Old-People".toList := by
  simp only [String.reduceToList]; decide
example : irregular goCfg true "perſon".toList = .nomatch := by
  simp only [String.reduceToList]; decide
/-- no word boundary inside snake/camel compounds -/
example : irregular goCfg true "old_person".toList = .nomatch := by
  simp only [String.reduceToList]; decide
/-- found by the differential probe: a non-ASCII rune that folds to the first letter of a table
    word is itself a non-word character, so there *is* a boundary after a preceding letter -/
example : irregular goCfg false "woſon".toList = .nomatch ∧ irregular goCfg false "perſon".toList = .panic := by
  simp only [String.reduceToList]; decide

/-- inside a run of word characters there is no boundary, so no later split point can match -/
theorem findAux_inside (c : Cfg) (x : Char) (xs : Str) (hw : ∀ z ∈ x :: xs, c.isWord z = true) (pre : Str)
    (best : Option (Str × Str)) : findAux c (pre ++ [x]) xs best = best := by
  induction xs generalizing x pre with
  | nil => rfl
  | cons y ys ih =>
    have hb : boundary c (pre ++ [x]) (y :: ys) = false := by simp [boundary, hw]
    rw [findAux, hb, Bool.false_and, if_neg Bool.false_ne_true]
    exact ih y (fun z hz => hw z (List.mem_cons_of_mem _ hz)) _

/-- `find_prefix` from any split point on: scanning `pre | a ++ w` with any candidate in hand ends with `pre ++ a | w` -/
theorem findAux_prefix (c : Cfg) (a w : Str) (hw : w ≠ []) (hword : ∀ x ∈ w, c.isWord x = true)
    (hm : matchesTable c w = true) (pre : Str) (best : Option (Str × Str)) (hb : boundary c (pre ++ a) w = true) :
    findAux c pre (a ++ w) best = some (pre ++ a, w) := by
  induction a generalizing pre best with
  | nil =>
    obtain ⟨x, xs, rfl⟩ := List.exists_cons_of_ne_nil hw
    rw [List.append_nil] at hb ⊢
    -- the split in front of `w` matches and becomes the candidate; no later one replaces it
    rw [List.nil_append, findAux, hb, hm, Bool.and_self, if_pos rfl]
    exact findAux_inside c x xs hword pre _
  | cons y ys ih =>
    rw [List.append_cons pre y ys] at hb ⊢
    exact ih _ _ hb

/-- the match the regexp finds in `p ++ w`, when `w` is a table word (up to folding) made of word
    characters and there is a word boundary between `p` and `w` -/
theorem find_prefix (c : Cfg) (p w : Str) (hw : w ≠ []) (hword : ∀ x ∈ w, c.isWord x = true)
    (hb : boundary c p w = true) (hm : matchesTable c w = true) :
    find c (p ++ w) = some (p, w) :=
  findAux_prefix c p w hw hword hm [] none hb

theorem irregular_of_find {c : Cfg} {s pre w : Str} (h : find c s = some (pre, w)) :
    irregular c true s = match c.table.lookup (w.map c.lower) with
      | none => .nomatch
      | some repl => .ok (pre ++ w.take 1 ++ repl.drop 1) := by
  simp only [irregular, irregular2, if_true, h]
  cases c.table.lookup (w.map c.lower) <;> rfl

/-- C20 `irregular_prefix` (repaired code): everything before the irregular word is preserved
    and the word is inflected exactly as it is on its own — for every prefix `p` that ends in a
    word boundary and every spelling `w` (any case) of a table word. -/
theorem irregular_prefix (c : Cfg) (p w : Str) (hw : w ≠ []) (hword : ∀ x ∈ w, c.isWord x = true)
    (hb : boundary c p w = true) (hm : matchesTable c w = true) :
    irregular c true (p ++ w) =
      match irregular c true w with
      | .ok out => .ok (p ++ out)
      | o => o := by
  -- on its own the word starts the text, and a word character after the edge is a boundary
  have hb₀ : boundary c [] w = true := by
    obtain ⟨x, xs, rfl⟩ := List.exists_cons_of_ne_nil hw
    simp [boundary, hword x]
  have h₀ : find c w = some ([], w) := find_prefix c [] w hw hword hb₀ hm
  rw [irregular_of_find (find_prefix c p w hw hword hb hm), irregular_of_find h₀]
  cases c.table.lookup (w.map c.lower) <;> simp

#print axioms irregular_prefix
/-- pinned pattern without the `s` flag: the lines before the last newline are lost (F2) -/
example : irregular goCfg false "a\nperson".toList = .ok "aeople".toList := by
  simp only [String.reduceToList]; decide
example : irregular goCfg true "a\nperson".toList = .ok "a\npeople".toList := by
  simp only [String.reduceToList]; decide
end Gengo.Inflect

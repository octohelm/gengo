import Gengo.Gen.Code.C15b
import Gengo.Model.TypeRef
import Gengo.Props.GoRtLemmas
import Gengo.Props.TrIndex
/-!
C15 / C11, tie by translation: `Gengo.Code.parseTypeRef`, regenerated by `go2lean` from `ParseTypeRef` in
pkg/types/ref.go on every run — the recursive descent over `Name[arg,…]` with its closure `commit`, the depth counter
and the index arithmetic on the argument list — computes, with enough fuel, what the hand-written model `TypeRef.parse`
(depth-counter side) computes: the model about which `Props/C15` proves `parse_print`.
-/
namespace Gengo.TrC15b
open Gengo Gengo.Go Gengo.Code Gengo.TypeRef Gengo.TrIndex

/-- `t.TypeList = append(t.TypeList, subs…)` -/
def addArgs : TRef → List TRef → TRef
  | .mk p n a, subs => .mk p n (a ++ subs)

theorem addArgs_nil (t : TRef) : addArgs t [] = t := by cases t; simp [addArgs]

theorem addArgs_cons (t : TRef) (x : TRef) (xs : List TRef) :
    addArgs (addArgs t [x]) xs = addArgs t (x :: xs) := by cases t; simp [addArgs]

/-- one `commit(i)`: parse the piece `L[started:i]`, append it -/
theorem commit_spec (self : Str → M (Option TRef)) (g : Str → Option TRef) (L : Str)
    (hself : ∀ x, x.length ≤ L.length → self x = pure (g x))
    (t : TRef) (started i : Nat) (h1 : started ≤ i) (h2 : i ≤ L.length) :
    parseTypeRef.commit self L t (started : Int) (i : Int) =
      pure ((g ((L.drop started).take (i - started))).map fun sub => (addArgs t [sub], (i : Int) + 1)) := by
  unfold parseTypeRef.commit
  rw [GoRtLemmas.slice_nat h1 h2, pure_bind,
    hself _ (Nat.le_trans (List.length_take_le' ..) (List.length_drop ▸ Nat.sub_le ..)), pure_bind]
  cases g ((L.drop started).take (i - started)) with
  | none => rfl
  | some sub => cases t; rfl

/-- what the loop and the final `commit` do together -/
def finish (self : Str → M (Option TRef)) (L : Str) (r : Ctl (TRef × Int × Int) (Option TRef)) : M (Option TRef) :=
  match r with
  | .ret x => pure x
  | .next (t, _, started) =>
    parseTypeRef.commit self L t started (Go.len L) >>= fun r2 =>
      match r2 with
      | none => pure none
      | some (t', _) => pure (some t')

/-- the piece being scanned: `L[started:pre.length]` while `pre` has been read -/
theorem piece_eq {pre rest : List α} {started : Nat} (hs : started ≤ pre.length) :
    ((pre ++ rest).drop started).take (pre.length - started) = pre.drop started := by
  rw [List.drop_append_of_le_length hs]
  exact List.take_left' List.length_drop

/-- unless it is a comma at depth 0, a character at most moves the depth, in the code as in the model: the loop goes
    on, the piece grows -/
theorem step_grow {c : Char} {d : Int} (h : ¬(c = ',' ∧ d = 0)) (cs : Str) :
    ∃ d', (∀ self L i t started,
        parseTypeRef.loop1 self L (c :: cs) i t d started = parseTypeRef.loop1 self L cs (i + 1) t d' started) ∧
      ∀ cur, splitTop true (c :: cs) d cur = splitTop true cs d' (c :: cur) := by
  by_cases h1 : c = '['
  · subst h1; exact ⟨d + 1, fun _ _ _ _ _ => rfl, fun _ => rfl⟩
  by_cases h2 : c = ']'
  · subst h2; exact ⟨d - 1, fun _ _ _ _ _ => rfl, fun _ => rfl⟩
  refine ⟨d, fun _ _ _ _ _ => ?_, fun _ => ?_⟩
  · simp +contextual [parseTypeRef.loop1, h1, h2, not_and.mp h]
  · simp [splitTop, h1, h2, h]

/-- the index-based scan with its depth counter and `commit`, and the final `commit` behind it, are the model's
    `splitTop` followed by `mapM`: `pre` has been read, `cur` is (reversed) what of it lies behind `started` -/
theorem loop_spec (self : Str → M (Option TRef)) (g : Str → Option TRef) (L : Str)
    (hself : ∀ x, x.length ≤ L.length → self x = pure (g x))
    (rest : Str) (pre : Str) (hL : L = pre ++ rest) (t : TRef) (d : Int) (started : Nat) (hs : started ≤ pre.length)
    (cur : Str) (hcur : cur.reverse = (L.drop started).take (pre.length - started)) :
    (parseTypeRef.loop1 self L rest (pre.length : Int) t d (started : Int) >>= finish self L) =
      pure (((splitTop true rest d cur).mapM g).map fun subs => addArgs t subs) := by
  -- the induction keeps the piece as `pre.drop started`
  rw [hL, piece_eq hs] at hcur
  induction rest generalizing pre t d started cur with
  | nil =>
    obtain rfl : L = pre := hL.trans (List.append_nil _)
    have hc := commit_spec self g L hself t started L.length hs (Nat.le_refl _)
    rw [List.take_of_length_le (Nat.le_of_eq List.length_drop), ← hcur] at hc
    simp only [parseTypeRef.loop1, pure_bind, finish, Go.len, Int.ofNat_eq_natCast, hc, splitTop, List.mapM_cons,
      List.mapM_nil]
    cases g cur.reverse <;> rfl
  | cons c cs ih =>
    have hL' : L = (pre ++ [c]) ++ cs := by rw [hL, List.append_assoc]; rfl
    have hlen : (pre ++ [c]).length = pre.length + 1 := List.length_append
    have hpos : ((pre ++ [c]).length : Int) = (pre.length : Int) + 1 := congrArg Int.ofNat hlen
    by_cases h : c = ',' ∧ d = 0
    · -- the piece is committed as `sub`, and the scan goes on with a new piece that starts behind the comma
      obtain ⟨rfl, rfl⟩ := h
      have hc := commit_spec self g L hself t started pre.length hs (by rw [hL]; simp)
      rw [hL, piece_eq hs, ← hcur, ← hL] at hc
      show (parseTypeRef.commit self L t started pre.length >>= _) >>= _ =
        pure ((List.mapM g (cur.reverse :: splitTop true cs 0 [])).map _)
      rw [hc, pure_bind, List.mapM_cons]
      cases g cur.reverse with
      | none => rfl
      | some sub =>
        have := ih (pre ++ [',']) hL' (addArgs t [sub]) 0 (pre ++ [',']).length (Nat.le_refl _) [] List.drop_length.symm
        simp only [hpos, addArgs_cons] at this
        exact this.trans (by cases (splitTop true cs 0 []).mapM g <;> rfl)
    · obtain ⟨d', hcode, hmodel⟩ := step_grow h cs
      rw [hcode, hmodel]
      exact hpos ▸ ih (pre ++ [c]) hL' t d' started (hlen ▸ Nat.le_succ_of_le hs) (c :: cur)
        (by rw [List.reverse_cons, hcur, List.drop_append_of_le_length hs])

theorem parseFlat_args (x : Str) : ∃ p n, parseFlat x = .mk p n [] := by
  unfold parseFlat
  split
  · split <;> exact ⟨_, _, rfl⟩
  · exact ⟨_, _, rfl⟩

/-- the bracket-free branch of the translated code -/
theorem flat_code (s : Str) :
    (if decide (Go.strLastIndex s ['.'] > 0) = true then
        (Go.slice s 0 (Go.strLastIndex s ['.']) >>= fun a => Go.slice s (Go.strLastIndex s ['.'] + 1) (Go.len s) >>= fun b =>
          (pure (some (TRef.mk a b [])) : M (Option TRef)))
      else pure (some (TRef.mk [] s []))) = pure (some (parseFlat s)) := by
  rw [strLastIndex_char]
  refine ite_asInt_pos some fun n hn _ => ?_
  have hlt := lastIndexOf?_lt _ _ _ hn
  rw [hn, asInt, GoRtLemmas.slice_to s n (Nat.le_of_lt hlt), pure_bind, GoRtLemmas.slice_after s n hlt, pure_bind]

/-- a reference without `[` parses flat, whatever the fuel: to one without type arguments -/
theorem parse_head {fuel : Nat} (hf : 0 < fuel) {x : Str} (h : indexOf? '[' x = none) :
    ∃ p n, parse true fuel x = some (.mk p n []) := by
  obtain ⟨f, rfl⟩ := Nat.exists_eq_succ_of_ne_zero (Nat.ne_of_gt hf)
  obtain ⟨p, n, hpn⟩ := parseFlat_args x
  exact ⟨p, n, by rw [parse, h, hpn]⟩

/-- the translated `ParseTypeRef` computes, with fuel beyond the length of the reference, what the model's parser
    computes (the depth-counter side, about which `parse_print` is proved) -/
theorem parseTypeRef_eq (fuel : Nat) : ∀ s : Str, s.length < fuel → Code.parseTypeRef fuel s = pure (parse true fuel s) := by
  induction fuel with
  | zero => intro s h; cases h
  | succ fuel ih =>
    intro s hs
    rw [Code.parseTypeRef, parse]
    rw [strIndex_char, flat_code]
    refine ite_asInt_pos (fun r => r) fun i hi hpos => ?_
    have hilt := indexOf?_lt '[' s i hi
    have hne : s ≠ [] := List.ne_nil_of_length_pos (Nat.zero_lt_of_lt hilt)
    rw [hi, asInt, strLastIndex_char, GoRtLemmas.len_sub_one hne, asInt_beq]
    by_cases hlast : (lastIndexOf? ']' s == some (s.length - 1)) = true
    case neg => rw [if_neg hlast, if_neg hlast]
    have hhead : (s.take i).length < fuel :=
      Nat.lt_of_le_of_lt (List.length_take_le i s) (Nat.lt_of_lt_of_le hilt (Nat.le_of_lt_succ hs))
    -- the head holds no bracket: it parses flat, with no arguments of its own
    obtain ⟨p, n, hpn⟩ := parse_head (Nat.zero_lt_of_lt hhead) (indexOf?_take '[' s i hi)
    rw [if_pos hlast, if_pos hlast, GoRtLemmas.slice_to s i (Nat.le_of_lt hilt), pure_bind, ih _ hhead, pure_bind, hpn]
    dsimp only
    -- the `[` at `i` is not the `]` at the last position, so the argument list is a slice within bounds
    have hbody : i + 1 ≤ s.length - 1 := by
      refine Nat.lt_of_le_of_ne (Nat.le_sub_one_of_lt hilt) fun he => ?_
      have h2 := lastIndexOf?_get ']' s _ (eq_of_beq hlast)
      rw [← he, indexOf?_get '[' s i hi] at h2
      cases h2
    rw [show ((i : Int) + 1) = ((i + 1 : Nat) : Int) from rfl, GoRtLemmas.slice_nat hbody (Nat.sub_le ..), pure_bind,
      show s.length - 1 - (i + 1) = s.length - i - 2 by rw [Nat.sub_sub, Nat.sub_sub, Nat.add_comm 1]]
    have hL : ((s.drop (i + 1)).take (s.length - i - 2)).length < fuel :=
      Nat.lt_of_le_of_lt (List.length_take_le ..) (by omega)
    generalize (s.drop (i + 1)).take (s.length - i - 2) = L at hL ⊢
    -- the scan starts with nothing read, at depth 0, the first piece empty
    exact loop_spec (parseTypeRef fuel) (parse true fuel) L (fun x hx => ih x (Nat.lt_of_le_of_lt hx hL))
      L [] rfl (TRef.mk p n []) 0 0 (Nat.le_refl _) [] rfl

/-- what the code does with a reference, fuel chosen by its length: exactly the model's answer — and so, by
    `parse_print` (Props/C15), every well-formed reference of any depth and width parses back to itself -/
theorem parseTypeRef_run (s : Str) : Code.parseTypeRef (s.length + 1) s = pure (parse true (s.length + 1) s) :=
  parseTypeRef_eq (s.length + 1) s (Nat.lt_succ_self _)

example : Code.parseTypeRef 40 "a/b.Map[c.K,d/e.List[int]]".toList =
    .ok (some (TRef.mk "a/b".toList "Map".toList [TRef.mk "c".toList "K".toList [],
      TRef.mk "d/e".toList "List".toList [TRef.mk [] "int".toList []]])) := by simp only [String.reduceToList]; rfl
example : Code.parseTypeRef 10 "T[a".toList = .ok none := by simp only [String.reduceToList]; rfl

end Gengo.TrC15b

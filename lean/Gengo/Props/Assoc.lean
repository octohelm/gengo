/-!
Go maps are modelled as association lists read with `List.lookup`.  Core Lean relates `lookup` to `findSome?`,
`++` and membership of keys (`List.lookup_append`, `List.lookup_eq_none_iff`, `List.lookup_eq_some_iff`); here is
what the models need beyond that: filters on the key, entries of a list without repeated keys, permutations.
-/
namespace Gengo.Assoc
variable {κ ν : Type}

theorem inj_of_nodup_map {α β : Type} (f : α → β) (l : List α) (h : (l.map f).Nodup) :
    ∀ a ∈ l, ∀ b ∈ l, f a = f b → a = b :=
  have hp : l.Pairwise fun a b => f a ≠ f b := List.pairwise_map.mp h
  -- `f a = f b → a = b` holds of a member and itself, and for lack of a premise of two members at different
  -- positions, in either order: so it holds of any two members
  fun _ ha _ hb => List.Pairwise.forall_of_forall_of_flip (R := fun a b => f a = f b → a = b)
    (fun _ _ _ => rfl) (hp.imp fun hne he => absurd he hne) (hp.imp fun hne he => absurd he.symm hne) ha hb

theorem eq_of_key_eq {m : List (κ × ν)} (hd : (m.map (·.1)).Nodup) :
    ∀ a ∈ m, ∀ b ∈ m, a.1 = b.1 → a = b :=
  inj_of_nodup_map (·.1) m hd

variable [BEq κ] [LawfulBEq κ]

theorem lookup_cons_ne {m : List (κ × ν)} {k k₀ : κ} {v₀ : ν} (h : k ≠ k₀) :
    ((k₀, v₀) :: m).lookup k = m.lookup k := by
  rw [List.lookup_cons, beq_eq_false_iff_ne.mpr h]

theorem lookup_cons_eq_some {m : List (κ × ν)} {k k₀ : κ} {v v₀ : ν} :
    ((k₀, v₀) :: m).lookup k = some v ↔ k = k₀ ∧ v = v₀ ∨ k ≠ k₀ ∧ m.lookup k = some v := by
  by_cases h : k = k₀
  · subst h; simp [eq_comm]
  · simp [lookup_cons_ne h, h]

theorem lookup_eq_none {m : List (κ × ν)} {k : κ} : m.lookup k = none ↔ k ∉ m.map (·.1) := by
  simp only [List.lookup_eq_none_iff, bne_iff_ne, List.mem_map, not_exists, not_and]
  exact ⟨fun h p hp e => h p hp e.symm, fun h p hp e => h p hp e.symm⟩

theorem lookup_isNone {m : List (κ × ν)} {k : κ} : (m.lookup k).isNone = true ↔ k ∉ m.map (·.1) := by
  rw [Option.isNone_iff_eq_none, lookup_eq_none]

theorem mem_of_lookup {m : List (κ × ν)} {k : κ} {v : ν} (h : m.lookup k = some v) : (k, v) ∈ m := by
  obtain ⟨l₁, l₂, rfl, _⟩ := List.lookup_eq_some_iff.mp h
  simp

theorem lookup_filter (P : κ → Bool) (m : List (κ × ν)) (k : κ) :
    (m.filter fun kv => P kv.1).lookup k = if P k then m.lookup k else none := by
  induction m with
  | nil => simp
  | cons kv m ih =>
    obtain ⟨k', v⟩ := kv
    by_cases hk : k = k'
    · subst hk; cases hp : P k <;> simp [hp, ih]
    · cases hp : P k' <;> simp [hp, lookup_cons_ne hk, ih]

/-- `m[k] = v` as "strike the key out, put the entry in front" -/
theorem lookup_cons_filter_ne [DecidableEq κ] (m : List (κ × ν)) (k k' : κ) (v : ν) :
    ((k, v) :: m.filter (·.1 ≠ k)).lookup k' = if k' = k then some v else m.lookup k' := by
  split
  · subst k'; exact List.lookup_cons_self
  next h => rw [lookup_cons_ne h, lookup_filter (· ≠ k), if_pos (decide_eq_true h)]

theorem lookup_of_mem {m : List (κ × ν)} (hd : (m.map (·.1)).Nodup) {k : κ} {v : ν} (h : (k, v) ∈ m) :
    m.lookup k = some v := by
  obtain ⟨l₁, l₂, rfl⟩ := List.append_of_mem h
  rw [List.map_append, List.map_cons, List.nodup_append] at hd
  exact List.lookup_eq_some_iff.mpr ⟨l₁, l₂, rfl, fun p hp =>
    bne_iff_ne.mpr fun e => hd.2.2 p.1 (List.mem_map_of_mem hp) k List.mem_cons_self e.symm⟩

/-- a Go map read by key does not show the order it is presented in -/
theorem lookup_perm {m₁ m₂ : List (κ × ν)} (h : m₁.Perm m₂) (hd : (m₁.map (·.1)).Nodup) (k : κ) :
    m₁.lookup k = m₂.lookup k := by
  cases h₂ : m₂.lookup k with
  | none => rw [lookup_eq_none] at h₂ ⊢; exact fun hk => h₂ ((h.map _).mem_iff.mp hk)
  | some v => exact lookup_of_mem hd (h.mem_iff.mpr (mem_of_lookup h₂))

end Gengo.Assoc

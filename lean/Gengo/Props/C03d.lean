import Gengo.Props.C03a
import Gengo.Model.LocalName
namespace Gengo.Tracker

/-! C03 `std_reserved`: a std short name is only ever bound to its std path. -/

def NoReserved (c : Cfg) (t : Tracker) : Prop := ∀ p n, t.p2n.lookup p = some n → c.reserved n p = false

theorem add_noReserved (c : Cfg) (t : Tracker) (q : Str) (h : NoReserved c t) : NoReserved c (add c t q) := by
  intro p n hl
  rcases lookup_add hl with hl | ⟨rfl, hn⟩
  · exact h p n hl
  · exact (free_iff.mp hn).1

theorem adds_noReserved (c : Cfg) (ps : List Str) : NoReserved c (ps.foldl (add c) empty) :=
  List.foldlRecOn ps (add c) nofun fun t ht p _ => add_noReserved c t p ht

end Gengo.Tracker

namespace Gengo.LocalName
open Gengo.Tracker

/-- `std_reserved` for the concrete tracker (`checkStd = true`, i.e. the Go tracker as
    `NewDefaultImportTracker` builds it): after any sequence of references, if a bound name is
    one of the std short names of the regenerated table, the package it is bound to is that std
    package — `fmt` never names anything but `fmt`, `json` nothing but `encoding/json`. -/
theorem std_reserved (std : List (Str × Str)) (ps : List Str) (p n q : Str)
    (hb : (ps.foldl (add (cfgF std true)) empty).p2n.lookup p = some n) (hs : std.lookup n = some q) : q = p := by
  have := adds_noReserved (cfgF std true) ps p n hb
  -- `n` is not reserved against `p`; with `n ↦ q` in the std table, "reserved" reads `q != p`
  simp only [cfgF, hs, Bool.true_and] at this
  exact bne_eq_false_iff_eq.mp this

#print axioms std_reserved
end Gengo.LocalName

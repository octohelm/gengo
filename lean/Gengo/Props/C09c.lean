import Gengo.Props.C09
namespace Gengo.Template

/-!
The declarative reading of C09: rendering a template is tokenizing its format and substituting into the tokens.
`tokenize` runs on fuel because it continues on what `takeName` leaves of the input, which is no subterm of it;
any fuel above the length of the format suffices (`scan_eq_subst`), and `renderS_tmpl` passes `length + 1`.
-/

inductive Tok
  | lit (c : Char)
  | hole (name : List Char)

/-- maximal run of name characters -/
def takeName : List Char → List Char × List Char
  | [] => ([], [])
  | c :: cs => if isNameChar c then ((takeName cs).1.cons c, (takeName cs).2) else ([], c :: cs)

theorem takeName_spec (l : List Char) :
    l = (takeName l).1 ++ (takeName l).2 ∧ (∀ c ∈ (takeName l).1, isNameChar c = true) ∧
    (∀ c, (takeName l).2.head? = some c → isNameChar c = false) := by
  fun_induction takeName l with
  | case1 => simp
  | case2 c cs hc ih => simpa [hc] using ih
  | case3 c cs hc => simpa using hc

theorem takeName_length (l : List Char) : (takeName l).2.length ≤ l.length := by
  have h := congrArg List.length (takeName_spec l).1
  rw [List.length_append] at h
  omega

/-- `scan_hole` without hypotheses: the name is the maximal run `takeName` cuts off -/
theorem scan_at_takeName (env : Env) (fixed : Bool) (r : List Char) :
    scan env fixed ('@' :: r) =
      match flush env (takeName r).1 with
      | none => none
      | some (t, wasNil) => afterHole env fixed t wasNil (takeName r).2 := by
  obtain ⟨h1, h2, h3⟩ := takeName_spec r
  have h := scan_hole env fixed _ _ h2 h3
  rwa [List.cons_append, ← h1] at h

/-- the format as a sequence of literal characters and placeholders: an `@` opens a placeholder
    named by the maximal following run of name characters; one apostrophe directly after it is a
    delimiter and disappears; everything else is a literal character -/
def tokenize : Nat → List Char → List Tok
  | 0, _ => []
  | _ + 1, [] => []
  | fuel + 1, c :: r =>
    if c == '@' then
      let n := (takeName r).1
      match (takeName r).2 with
      | [] => [.hole n]
      | d :: r'' =>
        if d == '@' then .hole n :: tokenize fuel (d :: r'')
        else if d == '\'' then .hole n :: tokenize fuel r''
        else .hole n :: .lit d :: tokenize fuel r''
    else .lit c :: tokenize fuel r

/-- substitute: literals are copied, a placeholder is replaced by the complete rendering of its
    argument (nothing for the empty name or a nil argument); `none` = panic -/
def subst (env : Env) : List Tok → Option (List Char)
  | [] => some []
  | .lit c :: ts => (subst env ts).map (c :: ·)
  | .hole n :: ts =>
    match flush env n with
    | none => none
    | some (t, _) => (subst env ts).map (t ++ ·)

/-- C09 (repaired scanner): rendering a template *is* tokenizing its format and substituting.
    Argument text is appended by `subst` and never passes through `tokenize` — it is not re-read
    as template syntax —, and the literal tokens are exactly the characters of the format that are
    not part of a placeholder, in order. -/
theorem scan_eq_subst (env : Env) : ∀ (fuel : Nat) (s : List Char), s.length < fuel →
    scan env true s = subst env (tokenize fuel s) := by
  intro fuel
  induction fuel with
  | zero => intro s h; omega
  | succ k ih =>
    intro s hs
    cases s with
    | nil => rfl
    | cons c r =>
      have hr : r.length < k := by simpa using hs
      rw [tokenize]
      by_cases hc : c = '@'
      · subst hc
        rw [scan_at_takeName, if_pos (beq_self_eq_true _)]
        have hlen := takeName_length r
        cases hr2 : (takeName r).2 with
        | nil => simp only [afterHole, subst, Option.map_some, List.append_nil]
        | cons d r'' =>
          rw [hr2, List.length_cons] at hlen
          -- `afterHole` and `tokenize` test the first character behind the name alike, and the rest is tokenized by
          -- the induction hypothesis; `subst` of the `hole` token is then the very `match` on `flush` on the left
          simp only [afterHole, Bool.true_or, Bool.and_true, ih r'' (by omega),
            ih (d :: r'') (by rw [List.length_cons]; omega)]
          by_cases hd : (d == '@') = true
          · simp only [if_pos hd, subst]
          · by_cases ha : (d == '\'') = true
            · simp only [if_neg hd, if_pos ha, subst]
            · simp only [if_neg hd, if_neg ha, subst, Option.map_map]
              rfl
      · rw [if_neg (by simpa using hc), subst, scan_lit env true c r hc, ih r hr]

#print axioms scan_eq_subst
end Gengo.Template

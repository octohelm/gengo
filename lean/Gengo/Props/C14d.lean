import Gengo.Model.Resolver
import Gengo.Props.Assoc
namespace Gengo.Resolver
/-!
### C14 `stable`: the `funcResults` cache (`sync.Map`) in front of the resolver

`ResultsOf` stores what the resolver computed under the `*types.Func` and returns the stored
value afterwards.  As a state machine over any sequence of calls (every linearisation of
concurrent callers): each call returns the pure resolver's value, so repeated calls agree.
-/
abbrev RCache := List (Nat × Option (List (List Res)))

def cachedCall (f : Nat → Option (List (List Res))) (c : RCache) (k : Nat) : RCache × Option (List (List Res)) :=
  match c.lookup k with
  | some v => (c, v)
  | none => ((k, f k) :: c, f k)

def RSound (f : Nat → Option (List (List Res))) (c : RCache) : Prop := ∀ k v, c.lookup k = some v → v = f k

theorem cachedCall_sound (f) (c : RCache) (k : Nat) (h : RSound f c) :
    RSound f (cachedCall f c k).1 ∧ (cachedCall f c k).2 = f k := by
  unfold cachedCall
  cases hl : c.lookup k with
  | some v => exact ⟨h, h k v hl⟩
  | none =>
    refine ⟨?_, rfl⟩
    intro k' v hk
    rcases Assoc.lookup_cons_eq_some.mp hk with ⟨rfl, rfl⟩ | ⟨_, hk'⟩
    · rfl
    · exact h k' v hk'

theorem foldl_cachedCall_sound (f) (pre : List Nat) :
    ∀ c : RCache, RSound f c → RSound f (pre.foldl (fun c k => (cachedCall f c k).1) c) := by
  induction pre with
  | nil => exact fun c h => h
  | cons x xs ih => exact fun c h => ih _ (cachedCall_sound f c x h).1

/-- after any sequence of calls, a call returns what the function behind the cache returns -/
theorem cachedCall_stable (f) (pre : List Nat) (k : Nat) :
    (cachedCall f (pre.foldl (fun c k => (cachedCall f c k).1) []) k).2 = f k :=
  (cachedCall_sound f _ k (foldl_cachedCall_sound f pre [] nofun)).2

theorem stable (p : Prog) (fuel : Nat) (calls : List Nat) (i : Nat) (hi : i < calls.length) :
    ((calls.take i).foldl (fun c k => (cachedCall (resultsOf p true fuel) c k).1) [] |>
      fun c => (cachedCall (resultsOf p true fuel) c calls[i]).2) = resultsOf p true fuel calls[i] :=
  cachedCall_stable _ _ _

#print axioms stable
end Gengo.Resolver

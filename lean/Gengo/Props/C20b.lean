import Gengo.Model.Inflect
import Gengo.Gen.InflectTables
import Gengo.Props.Assoc
/-!
C20: the repaired irregular step never panics; every irregular word of the regenerated tables starts like its
replacement; the memoisation cache, as a state machine, answers every call with the pure function's value.
-/
namespace Gengo.Inflect

/-- C20 `irregular_total` (repaired code): the irregular step never panics — whatever the
    regexp's folding relation and `ToLower` do to the matched word -/
theorem irregular_total (c : Cfg) (s : Str) : irregular c true s ≠ .panic := by
  unfold irregular irregular2
  split
  · simp
  · split <;> simp

/-- table fact used by the repaired rebuild (`first rune of the matched word ++ replacement[1:]`):
    every irregular word and its replacement start with the same letter — checked over the
    tables regenerated from rules.go -/
theorem plural_heads : irregularPlural.all (fun e => e.1.head? == e.2.head? && !e.1.isEmpty) = true := by decide
theorem singular_heads : irregularSingular.all (fun e => e.1.head? == e.2.head? && !e.1.isEmpty) = true := by decide

/-! ### the memoisation cache (`sync.Map` of `sync.OnceValue`) as a state machine -/

/-- cache contents: key ↦ memoised result -/
abbrev Cache := List (Str × Str)

/-- one `Inflected(s)` call: `LoadOrStore`, then the once-cell yields `f s` -/
def call (f : Str → Str) (cache : Cache) (s : Str) : Cache × Str :=
  match cache.lookup s with
  | some v => (cache, v)
  | none => ((s, f s) :: cache, f s)

def Sound (f : Str → Str) (cache : Cache) : Prop := ∀ k v, cache.lookup k = some v → v = f k

theorem call_sound (f : Str → Str) (cache : Cache) (s : Str) (h : Sound f cache) :
    Sound f (call f cache s).1 ∧ (call f cache s).2 = f s := by
  unfold call
  cases hl : cache.lookup s with
  | some v => exact ⟨h, h s v hl⟩
  | none =>
    refine ⟨fun k v hk => ?_, rfl⟩
    rcases Assoc.lookup_cons_eq_some.mp hk with ⟨rfl, rfl⟩ | ⟨_, hk⟩
    · rfl
    · exact h k v hk

theorem calls_sound (f : Str → Str) (calls : List Str) (cache : Cache) (h : Sound f cache) :
    Sound f (calls.foldl (fun c s => (call f c s).1) cache) := by
  induction calls generalizing cache with
  | nil => exact h
  | cons s calls ih => exact ih _ (call_sound f cache s h).1

/-- C20 `cache_refines`: in every sequence of calls — every linearisation of concurrent callers —
    each call returns the pure function's value -/
theorem cache_refines (f : Str → Str) (calls : List Str) :
    ∀ (cache : Cache), Sound f cache →
      ∀ (i : Nat) (hi : i < calls.length),
        ((calls.take i).foldl (fun c s => (call f c s).1) cache |> fun c => (call f c calls[i]).2) = f calls[i] :=
  fun cache h i _ => (call_sound f _ _ (calls_sound f (calls.take i) cache h)).2

#print axioms cache_refines
end Gengo.Inflect

import Gengo.Gen.Code.C15
import Gengo.Model.TypeRef
import Gengo.Props.Small
import Gengo.Props.GoRtLemmas
import Gengo.Props.TrIndex
/-!
C15 / C03, tie by translation: `Gengo.Code.ImportGoPath`, `PkgImportPathAndExpose` and `ParseRef`, regenerated by
`go2lean` from `pkg/gengo/helper.go` and `pkg/types/ref.go` on every run, are equal to the hand-written model
(`TypeRef.importGoPath`, `pkgImportPathAndExpose`, `parseRef`) about which `Props/Small.splitRef_agree` is proved.
They never panic: every slice expression is within bounds for every input.
-/
namespace Gengo.TrC15
open Gengo Gengo.Go Gengo.Code Gengo.TypeRef Gengo.TrIndex

theorem importGoPath_eq (p : Str) : Code.ImportGoPath p = pure (importGoPath p) := by
  unfold Code.ImportGoPath importGoPath
  simp only [strLastIndex_sub, String.reduceToList]
  exact ite_asInt_pos id fun n hn _ => by rw [hn]; exact GoRtLemmas.slice_from p n (lastIndexOfSub_le hn)

/-- the part of the reference both functions cut, as the translated code computes it -/
theorem base_eq (s : Str) :
    (if decide (Go.strIndex s ['['] > 0) = true then Go.slice s 0 (Go.strIndex s ['[']) else (pure s : M Str)) = pure (baseOf s) := by
  rw [strIndex_char]
  exact ite_asInt_pos id fun n hn _ => by rw [hn]; exact GoRtLemmas.slice_to s n (Nat.le_of_lt (indexOf?_lt _ _ _ hn))

theorem baseOf_le (s : Str) : (baseOf s).length ≤ s.length := by
  obtain ⟨rest, h⟩ := baseOf_prefix s
  rw [congrArg List.length h, List.length_append]
  exact Nat.le_add_right ..

/-- the translated `ParseRef` is the model's `parseRef`: the last dot is looked for in `baseOf s`, the cut made in `s` -/
theorem parseRef_eq (s : Str) : Code.ParseRef s = pure (parseRef s) := by
  unfold Code.ParseRef
  simp only [pure_bind]
  rw [GoRtLemmas.ite_bind_pure, base_eq, pure_bind, strLastIndex_char]
  -- `parseRef s` maps the cut over `cutIndex s`, which is the `match` on the last dot of `baseOf s`
  refine ite_asInt_pos (Option.map fun i => (s.take i, s.drop (i + 1))) (g := some) (b := none) fun n hn _ => ?_
  have hlt := Nat.lt_of_lt_of_le (lastIndexOf?_lt _ _ _ hn) (baseOf_le s)
  rw [hn, asInt, GoRtLemmas.slice_to s n (Nat.le_of_lt hlt), pure_bind, GoRtLemmas.slice_after s n hlt, pure_bind]
  rfl

/-- on the empty path the `/vendor/` cut changes nothing, so the model's emptiness guard is redundant -/
theorem importGoPath_guard (p : Str) : (if p.isEmpty then [] else importGoPath p) = importGoPath p := by
  cases p <;> rfl

/-- the translated `PkgImportPathAndExpose` is the model's (`/vendor/` cut included) -/
theorem pkgImportPathAndExpose_eq (s : Str) : Code.PkgImportPathAndExpose s = pure (pkgImportPathAndExpose s) := by
  unfold Code.PkgImportPathAndExpose
  simp only [pure_bind]
  rw [GoRtLemmas.ite_bind_pure, base_eq, pure_bind, strLastIndex_char]
  -- `pkgImportPathAndExpose s` applies this to `pathAndExpose s`, the same `match` with the two parts of `baseOf s`
  refine ite_asInt_pos (fun r : Str × Str => (if r.1.isEmpty then [] else importGoPath r.1, r.2))
    (g := fun n => ((baseOf s).take n, (baseOf s).drop (n + 1))) (b := ([], baseOf s)) fun n hn _ => ?_
  have hlt := lastIndexOf?_lt _ _ _ hn
  rw [hn, asInt, GoRtLemmas.slice_to _ n (Nat.le_of_lt hlt), pure_bind, importGoPath_eq, pure_bind,
    GoRtLemmas.slice_after _ n hlt, pure_bind, importGoPath_guard]

example : Code.ParseRef "gopkg.in/yaml.v3.Node".toList = .ok (some ("gopkg.in/yaml.v3".toList, "Node".toList)) := by
  simp only [String.reduceToList]; rfl
example : Code.PkgImportPathAndExpose "a.b/c.Map[x.y/z.K,int]".toList = .ok ("a.b/c".toList, "Map".toList) := by
  simp only [String.reduceToList]; rfl
example : Code.ParseRef "noDot".toList = .ok none := by simp only [String.reduceToList]; rfl

end Gengo.TrC15

import Gengo.Model.Camel
/-!
C19 on `Model/Camel`: the repaired `Split` is total, its words are non-empty and concatenate to the input
(`split_total_lossless`), whatever the three Unicode predicates.  Pass 1 (`group`) keeps the groups non-empty and loses
nothing; pass 2 (`fixup`), on non-empty groups, never reads an empty one and only moves a character to the next group.
-/
namespace Gengo.Camel

def AllNonempty (gs : List (List Char)) : Prop := ∀ g ∈ gs, g ≠ []

theorem allNonempty_cons {gs : List (List Char)} {g : List Char} :
    AllNonempty (g :: gs) ↔ g ≠ [] ∧ AllNonempty gs := List.forall_mem_cons

theorem allNonempty_concat {gs : List (List Char)} {g : List Char} :
    AllNonempty (gs ++ [g]) ↔ AllNonempty gs ∧ g ≠ [] := by
  simp only [AllNonempty, List.forall_mem_append, List.forall_mem_singleton]

/-- on a non-empty list of groups `appendToLast` extends the last one (on `[]` it panics, by
    definition) -/
theorem appendToLast_concat (gs : List (List Char)) (g : List Char) (r : Char) :
    appendToLast (gs ++ [g]) r = some (gs ++ [g ++ [r]]) := by
  induction gs with
  | nil => rfl
  | cons a gs ih => cases gs <;> simp_all [appendToLast]

theorem group_spec (p : Preds) (guarded : Bool) (s : List Char) (gs : List (List Char)) (last : Class)
    (hne : AllNonempty gs) {out : List (List Char)} (h : group p guarded s gs last = some out) :
    out.flatten = gs.flatten ++ s ∧ AllNonempty out := by
  induction s generalizing gs last with
  | nil => cases h; exact ⟨by simp, hne⟩
  | cons r rs ih =>
    rw [group] at h
    split at h
    · rcases List.eq_nil_or_concat gs with rfl | ⟨gs, g, rfl⟩
      · cases h
      · rw [List.concat_eq_append] at h hne
        rw [appendToLast_concat] at h
        obtain ⟨h1, h2⟩ := ih _ _ (allNonempty_concat.mpr ⟨(allNonempty_concat.mp hne).1, by simp⟩) h
        exact ⟨by simp [h1], h2⟩
    · obtain ⟨h1, h2⟩ := ih _ _ (allNonempty_concat.mpr ⟨hne, by simp⟩) h
      exact ⟨by simp [h1], h2⟩

/-- The repaired code never panics in pass 1. -/
theorem group_total (p : Preds) (s : List Char) (gs : List (List Char)) (last : Class) :
    ∃ out, group p true s gs last = some out := by
  induction s generalizing gs last with
  | nil => exact ⟨gs, rfl⟩
  | cons r rs ih =>
    rw [group]
    split
    · rename_i hc
      rcases List.eq_nil_or_concat gs with rfl | ⟨gs, g, rfl⟩
      · simp at hc
      · rw [List.concat_eq_append, appendToLast_concat]; exact ih _ _
    · exact ih _ _

theorem fixupAux_spec (p : Preds) (cur : List Char) (gs : List (List Char))
    (hc : cur ≠ []) (hne : AllNonempty gs) :
    ∃ out, fixupAux p cur gs = some out ∧ out.flatten = cur ++ gs.flatten := by
  induction gs generalizing cur with
  | nil => exact ⟨[cur], by simp [fixupAux]⟩
  | cons b rest ih =>
    obtain ⟨hb, hrest⟩ := allNonempty_cons.mp hne
    obtain ⟨a0, as, rfl⟩ := List.exists_cons_of_ne_nil hc
    obtain ⟨b0, bs, rfl⟩ := List.exists_cons_of_ne_nil hb
    simp only [fixupAux, List.head?_cons]
    split
    · -- the last rune of `cur` moves to the front of `b`
      obtain ⟨out, ho, hf⟩ := ih ((a0 :: as).getLast hc :: b0 :: bs) (by simp) hrest
      refine ⟨(a0 :: as).dropLast :: out, by simp [List.getLast?_eq_some_getLast hc, ho], ?_⟩
      rw [List.flatten_cons, hf, List.cons_append, List.append_cons, List.dropLast_concat_getLast, List.flatten_cons]
    · obtain ⟨out, ho, hf⟩ := ih (b0 :: bs) (by simp) hrest
      exact ⟨(a0 :: as) :: out, by simp [ho], by simp [hf]⟩

theorem fixup_spec (p : Preds) (gs : List (List Char)) (hne : AllNonempty gs) :
    ∃ out, fixup p gs = some out ∧ out.flatten = gs.flatten := by
  cases gs with
  | nil => exact ⟨[], rfl, rfl⟩
  | cons a rest =>
    obtain ⟨ha, hrest⟩ := allNonempty_cons.mp hne
    exact fixupAux_spec p a rest ha hrest

/-- C19, repaired code: total, words non-empty, concatenation is the input — for every
    choice of the three Unicode predicates. -/
theorem split_total_lossless (p : Preds) (s : List Char) :
    ∃ ws, split p true s = some ws ∧ ws.flatten = s ∧ ∀ w ∈ ws, w ≠ [] := by
  obtain ⟨gs, hg⟩ := group_total p s [] .other
  obtain ⟨h1, h2⟩ := group_spec p true s [] .other (by simp [AllNonempty]) hg
  obtain ⟨out, ho, hf⟩ := fixup_spec p gs h2
  refine ⟨out.filter (fun g => !g.isEmpty), by simp [split, hg, ho], ?_, ?_⟩
  · rw [List.flatten_filter_not_isEmpty, hf, h1]; rfl
  · intro w hw; simpa using (List.mem_filter.mp hw).2

/-- C19, pinned code: a first rune of class `other` panics. -/
theorem split_pinned_panics (p : Preds) (r : Char) (rs : List Char)
    (h : classOf p r = .other) : split p false (r :: rs) = none := by
  simp [split, group, h, joins, appendToLast]

example : split ⟨fun c => 'a' ≤ c ∧ c ≤ 'z', fun c => 'A' ≤ c ∧ c ≤ 'Z', fun c => '0' ≤ c ∧ c ≤ '9'⟩ true "PDFLoader9x".toList
    = some ["PDF".toList, "Loader".toList, "9x".toList] := by
  simp only [String.reduceToList]; decide

end Gengo.Camel

#print axioms Gengo.Camel.split_total_lossless
#print axioms Gengo.Camel.split_pinned_panics

import Gengo.Gen.Code.C08
import Gengo.Model.Pipeline
import Gengo.Props.GoRtLemmas
/-!
C08, tie by translation: the skip decision.  `Gengo.Code.pkgChanged` and `Gengo.Code.sumOf`, regenerated by `go2lean`
from `(*gengoCtx).pkgChanged` (pkg/gengo/context.go) and `(*File).Sum` (pkg/sumfile/file.go) on every run, are the
model's `Pipeline.pkgChanged` (about which `Props/C08b` proves `skip_sound` and `regen_on_*`): with `c.args.Force`,
`c.sumFile` and `c.universe.SumFile()` as parameters, the current hash of the package being what the universe's sum file
says for its path.
-/
namespace Gengo.TrC08b
open Gengo Gengo.Go Gengo.Code Gengo.Pipeline

theorem mapGet_lookup (m : List (Str × Str)) (k : Str) : Go.mapGet m k [] = (m.lookup k).getD [] :=
  GoRtLemmas.mapGet_lookup m k []

theorem sumOf_eq (data : List (Str × Str)) (k : Str) : Code.sumOf data k = pure ((data.lookup k).getD []) := by
  simp [Code.sumOf, mapGet_lookup]

/-- the translated decision when the universe has a sum file: Force, or no current hash for the package, or no earlier
    sum file, or another hash recorded there -/
theorem pkgChanged_some (force : Bool) (prev : Option (List (Str × Str))) (cur : List (Str × Str)) (k : Str) :
    Code.pkgChanged force prev (some cur) k = pure (force || ((cur.lookup k).getD []).isEmpty || match prev with
      | none => true
      | some m => (m.lookup k).getD [] != (cur.lookup k).getD []) := by
  unfold Code.pkgChanged
  cases force with
  | true => rfl
  | false =>
    cases prev with
    | none => exact congrArg pure (Bool.or_true _).symm
    | some m =>
      simp only [Go.deref, sumOf_eq, pure_bind]
      cases (cur.lookup k).getD [] <;> rfl

/-- the translated decision is the model's (repaired side: a directory that could not be hashed is never unchanged),
    the current hash being the universe's entry for the package -/
theorem pkgChanged_eq (a : Args) (prev : Option (List (Str × Str))) (cur : List (Str × Str)) (p : Pkg)
    (ha : a.emptyHashChanged = true) (hp : p.hash = (cur.lookup p.path).getD []) :
    Code.pkgChanged a.force prev (some cur) p.path = pure (Pipeline.pkgChanged a prev p) := by
  rw [pkgChanged_some, Pipeline.pkgChanged.eq_def, ha, hp, Bool.true_and]
  rfl

/-- without a sum file of the universe (or of an earlier run) everything counts as changed -/
theorem pkgChanged_no_current (force : Bool) (prev : Option (List (Str × Str))) (k : Str) :
    Code.pkgChanged force prev none k = pure true := by
  cases force <;> cases prev <;> rfl

/-- what the property asks of the decision, stated of the translated code: a package is skipped (`false`) only when
    Force is off, an earlier sum file was loaded, and it records for the package exactly the current, non-empty hash -/
theorem code_skip_sound (force : Bool) (prev : Option (List (Str × Str))) (cur : List (Str × Str)) (k : Str)
    (h : Code.pkgChanged force prev (some cur) k = pure false) :
    force = false ∧ ∃ m, prev = some m ∧ (cur.lookup k).getD [] ≠ [] ∧ (m.lookup k).getD [] = (cur.lookup k).getD [] := by
  rw [pkgChanged_some] at h
  have h := Except.ok.inj h
  simp only [Bool.or_eq_false_iff] at h
  obtain ⟨⟨hf, he⟩, hm⟩ := h
  cases prev with
  | none => cases hm
  | some m => exact ⟨hf, m, rfl, by simpa using he, by simpa using hm⟩

example : Code.pkgChanged false (some [("p".toList, "h1".toList)]) (some [("p".toList, "h1".toList)]) "p".toList = .ok false := by
  simp only [String.reduceToList]; rfl
example : Code.pkgChanged false (some [("p".toList, "h1".toList)]) (some [("p".toList, "h2".toList)]) "p".toList = .ok true := by
  simp only [String.reduceToList]; rfl

end Gengo.TrC08b

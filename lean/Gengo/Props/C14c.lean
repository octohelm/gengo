import Gengo.Props.C14b
/-!
C14 `literal_exact` on the core language, for one result position: a function whose `return`s list one literal per
result never descends, so `funcAt` reports the literals at that position and leaves the table as `visited` left it.
-/
namespace Gengo.Resolver

/-- a function whose every `return` lists one literal per result -/
def LiteralOnly (fn : Func) : Prop :=
  ∀ r ∈ fn.returns, r.length = fn.results.length ∧ ∀ e ∈ r, ∃ v, e = Expr.lit v

def litAt (r : List Expr) (a : Nat) : List Res :=
  match r[a]? with
  | some (.lit v) => [.val v]
  | _ => []

theorem exprsAt_literal {p : Prog} {rec : Rec} {vs : Visits} {r : List Expr} {n a : Nat}
    (hlen : r.length = n) (hlit : ∀ e ∈ r, ∃ v, e = Expr.lit v) (ha : a < n) :
    exprsAt p rec vs r n a = some (litAt r a, vs) := by
  subst hlen
  obtain ⟨v, hv⟩ := hlit r[a] (List.getElem_mem ha)
  simp only [exprsAt, litAt, Nat.lt_irrefl, and_false, if_false, List.getElem?_eq_getElem ha, hv]

theorem overReturns_literal {p : Prog} {rec : Rec} {n a : Nat} (ha : a < n) {rs : List (List Expr)}
    (h : ∀ r ∈ rs, r.length = n ∧ ∀ e ∈ r, ∃ v, e = Expr.lit v) (vs : Visits) (acc : List Res) :
    overReturns p rec n a rs vs acc = some (acc ++ rs.flatMap (litAt · a), vs) := by
  induction rs generalizing acc with
  | nil => simp [overReturns]
  | cons r rs ih =>
    obtain ⟨⟨hr₁, hr₂⟩, hrs⟩ := List.forall_mem_cons.mp h
    simp only [overReturns, exprsAt_literal hr₁ hr₂ ha, ih hrs, List.flatMap_cons, List.append_assoc]

/-- C14 `literal_exact`, per position: from any state in which position `a` of a literal-only
    function is still unmarked, the alternatives found are exactly the literal values written at
    that position of each `return`, in source order (`litAt r a` is `[val v]` for the literal `v`). -/
theorem funcAt_literal (p : Prog) (fuel f a : Nat) (fn : Func) (hfn : p[f]? = some fn)
    (hl : LiteralOnly fn) (ha : a < fn.results.length) (vs : Visits)
    (hun : (visited true vs f a fn.results.length).1 = false) :
    funcAt p true (fuel + 1) vs f a =
      some (fn.returns.flatMap (litAt · a), (visited true vs f a fn.results.length).2) := by
  simp only [funcAt, hfn]
  -- `visited …` split into its answer and the table it leaves: `hun` says the answer is `false`, so `funcAt` goes
  -- through the `return`s
  generalize visited true vs f a fn.results.length = r at hun ⊢
  obtain ⟨seen, vs'⟩ := r
  obtain rfl : seen = false := hun
  exact overReturns_literal ha hl vs' []

#print axioms funcAt_literal
end Gengo.Resolver

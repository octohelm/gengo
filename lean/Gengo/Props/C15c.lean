import Gengo.Props.C15b
namespace Gengo.TypeRef
open Gengo.Tracker

/-! ### C15: every rewritten node carries its package's *final* local name -/

/-- `t'` extends `t`: whatever `t` binds, `t'` binds to the same name -/
def Ext (t t' : Tracker) : Prop := ∀ p n, t.p2n.lookup p = some n → t'.p2n.lookup p = some n

theorem Ext.refl (t : Tracker) : Ext t t := fun _ _ h => h
theorem Ext.trans {a b c : Tracker} (h1 : Ext a b) (h2 : Ext b c) : Ext a c := fun p n h => h2 p n (h1 p n h)
theorem ext_adds (c : Cfg) (ps : List Str) (t : Tracker) : Ext t (ps.foldl (add c) t) :=
  List.foldlRecOn ps (add c) (Ext.refl t) fun t' h q _ => h.trans fun p n => add_stable c t' p q n

theorem localNameOf_ext {t t' : Tracker} {p : Str} (h : Ext t t') (hb : Bound t p) :
    localNameOf t' p = localNameOf t p := by
  rw [localNameOf, h p _ (lookup_localNameOf hb)]; rfl

theorem rewrite_ext (c : Cfg) (self : Str) : (t : Tracker) → (r : TRef) → Ext t (rewrite c self t r).2
  | t, r => rewrite_tracker c self t r ▸ ext_adds c _ t
theorem rewriteList_ext (c : Cfg) (self : Str) : (t : Tracker) → (rs : List TRef) → Ext t (rewriteList c self t rs).2
  | t, rs => rewriteList_tracker c self t rs ▸ ext_adds c _ t

mutual
  /-- the tree relabelled with the names of a given (final) table -/
  def relabel (final : Tracker) (self : Str) : TRef → TRef
    | .mk pkg name args =>
      .mk (if pkg.isEmpty || pkg = self then [] else localNameOf final pkg) name (relabels final self args)
  def relabels (final : Tracker) (self : Str) : List TRef → List TRef
    | [] => []
    | a :: as => relabel final self a :: relabels final self as
end

mutual
  /-- `rewrite_final_names`: whatever is rendered later into the same file (any extension
      `final` of the table the rewrite leaves behind — by `add_stable` every later `add` is one),
      each node of the rewritten reference carries the local name the *final* import table gives
      its package; own-package and predeclared names stay unqualified. -/
  theorem rewrite_final_names (c : Cfg) (hc : FallbackOK c) (self : Str) : (t : Tracker) → (r : TRef) →
      ∀ final, Ext (rewrite c self t r).2 final → (rewrite c self t r).1 = relabel final self r
    | t, .mk pkg name args => by
      intro final hext
      rw [rewrite_mk] at hext ⊢
      rw [relabel, rewriteList_final_names c hc self _ args final hext]
      split
      · rfl
      · next h =>
        -- the name bound right after `add` is the name the final table has
        simp only [if_neg h] at hext
        rw [localNameOf_ext ((rewriteList_ext c self _ args).trans hext) (add_binds c hc t pkg)]
  theorem rewriteList_final_names (c : Cfg) (hc : FallbackOK c) (self : Str) : (t : Tracker) → (rs : List TRef) →
      ∀ final, Ext (rewriteList c self t rs).2 final → (rewriteList c self t rs).1 = relabels final self rs
    | t, [] => fun _ _ => rfl
    | t, a :: as => by
      intro final hext
      rw [rewriteList, relabels, rewriteList_final_names c hc self _ as final hext,
        rewrite_final_names c hc self t a final ((rewriteList_ext c self _ as).trans hext)]
end

#print axioms rewrite_final_names
end Gengo.TypeRef

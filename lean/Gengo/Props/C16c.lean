import Gengo.Props.C10c
namespace Gengo.RuntimeDocText
open Gengo.Dumper Gengo.Eval

/-! ### C16 `doc_text_exact`: the literal the generator prints for doc lines denotes those lines

`runtimedocgen` emits a doc as `[]string{ <Value(line)>, … }` (the type's doc, assembled with
`Sprintf("%v,\n", line)`) or as `Value(lines)` (a field's doc).  Both are the composite literal
below.  With the leaf contract of C10 — the quoted text `strconv.Quote` prints for a line denotes
that line, whatever characters it contains — the literal evaluates to exactly the lines, in order:
nothing of the doc text is interpreted on the way (C09: `%v` arguments are never re-scanned). -/

def tString : Ty := .scalar "string".toList "\"\"".toList
def tDocs : Ty := .seq "[]string".toList tString

/-- the literal printed for the quoted lines `qs` -/
def docLiteral (qs : List Str) : Expr := .comp "[]string".toList (qs.map fun q => (none, Expr.raw q))

theorem evalElems_raw {qs : List Str} (h : ∀ q ∈ qs, q ≠ []) (text z : Str) :
    evalElems (.scalar text z) (qs.map fun q => (none, Expr.raw q)) = some (qs.map SV.scalar) := by
  induction qs with
  | nil => rw [List.map_nil, evalElems, List.map_nil]
  | cons q qs ih =>
    rw [List.map_cons, evalElems, eval_raw (h q List.mem_cons_self), ih fun x hx => h x (List.mem_cons_of_mem _ hx),
      List.map_cons]

/-- C16 `doc_text_exact`: the printed doc literal denotes the list of its lines, each line being
    what its quoted text denotes — for any number of lines and any characters in them -/
theorem doc_text_exact (qs : List Str) (h : ∀ q ∈ qs, q ≠ []) :
    eval (docLiteral qs) tDocs = some (.seq (qs.map SV.scalar)) := by
  rw [docLiteral, tDocs, eval, if_pos rfl, tString, evalElems_raw h, Option.map_some]

/-- the same literal is what `snippet.Value` prints for a non-empty `[]string` (field docs), so C10's
    `eval_value` applies to it as well -/
theorem value_of_lines (qs : List Str) (hne : qs ≠ []) (h : ∀ q ∈ qs, q ≠ []) :
    valueLit true false (.seq "[]string".toList (qs.map fun q => Val.leaf .string "string".toList q false)) = docLiteral qs := by
  rw [valueLit, seqElems_eq_map, List.map_map]
  rfl

example : eval (docLiteral ["\"T does \\\"x\\\"\"".toList, "\"100% @name\"".toList]) tDocs
    = some (.seq [.scalar "\"T does \\\"x\\\"\"".toList, .scalar "\"100% @name\"".toList]) :=
  doc_text_exact _ (by intro q hq; simp at hq; rcases hq with rfl | rfl <;> decide)

#print axioms doc_text_exact
end Gengo.RuntimeDocText

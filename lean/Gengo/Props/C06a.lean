import Gengo.Model.Tags
import Gengo.Props.Assoc
namespace Gengo.Tags

/-- keys of a Go map are distinct -/
def DistinctKeys (m : List (Str × List Str)) : Prop := (m.map (·.1)).Nodup

/-- The loop returns at the first entry under the key `p`, which is the entry `lookup` finds; when there is none
    it has gone through every entry. -/
theorem isEnabledLoop_eq (p : Str) (m : List (Str × List Str)) (en : Bool) :
    isEnabledLoop p m en =
      match m.lookup p with
      | some vs => decide (vs.flatten ≠ "false".toList)
      | none => en || m.any (fun kv => (p ++ [':']).isPrefixOf kv.1) := by
  fun_induction isEnabledLoop p m en with
  | case1 en => exact (Bool.or_false en).symm
  | case2 => rw [List.lookup_cons_self]
  | case3 k vs rest en hk hp ih =>
    rw [ih, Assoc.lookup_cons_ne (Ne.symm hk), List.any_cons, hp]
    cases List.lookup p rest <;> simp only [Bool.true_or, Bool.or_true]
  | case4 k vs rest en hk hp ih =>
    rw [ih, Assoc.lookup_cons_ne (Ne.symm hk), List.any_cons, Bool.eq_false_iff.mpr hp, Bool.false_or]

theorem loop_spec (p : Str) (m : List (Str × List Str)) (en : Bool) (hd : DistinctKeys m) :
    isEnabledLoop p m en =
      match m.lookup p with
      | some vs => decide (vs.flatten ≠ "false".toList)
      | none => en || m.any (fun kv => (p ++ [':']).isPrefixOf kv.1) :=
  isEnabledLoop_eq p m en

/-- C06 enablement rule: the early-return loop computes the order-free rule -/
theorem enabled_spec (gen : Str) (m : List (Str × List Str)) (hd : DistinctKeys m) :
    isEnabled gen m = enabledSpec gen m := by
  unfold isEnabled enabledSpec
  rw [isEnabledLoop_eq, Bool.false_or]
  rfl

/-- C04/C06: the verdict does not depend on Go's map iteration order -/
theorem enabled_perm (gen : Str) {m₁ m₂ : List (Str × List Str)} (h : m₁.Perm m₂) (hd : DistinctKeys m₁) :
    isEnabled gen m₁ = isEnabled gen m₂ := by
  unfold isEnabled
  rw [isEnabledLoop_eq, isEnabledLoop_eq, Assoc.lookup_perm h hd, h.any_eq]

/-- the prefix regenerated from `IsGeneratorEnabled` is the one the statement names -/
theorem tagPrefix_is_gengo : Gengo.Gen.tagPrefix = "gengo:".toList := by decide

-- generator names that are prefixes of one another do not enable each other; a `:`-suffixed key enables;
-- an explicit `false` under the generator's own key wins
example : isEnabled "deepcopy".toList [("gengo:deepcopyx".toList, [[]]), ("gengo:deepcopyx:a".toList, [[]])] = false := by
  simp only [String.reduceToList]; decide
example : isEnabled "deepcopy".toList [("gengo:deepcopy:interfaces".toList, ["X".toList])] = true := by
  simp only [String.reduceToList]; decide
example : isEnabled "g".toList [("gengo:g:sub".toList, [[]]), ("gengo:g".toList, ["false".toList])] = false := by
  simp only [String.reduceToList]; decide

end Gengo.Tags

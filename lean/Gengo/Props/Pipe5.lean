import Gengo.Props.Pipe2
/-! The trace of a run that fails (C02, C05, C07): `goPkgs_cases` read from the side of the error. -/
namespace Gengo.Pipeline

/-- C02, C05, the trace of a failing run: if the run returns an error, the processed packages (in sorted order)
    split into those before the failing one, the failing one and the rest: the trace is the complete own traces
    of the former, then whatever the failing package had already done (nothing for a generator or callback error
    — `pkgExecute_gen_error`; the files written before an unparseable one otherwise), and nothing of the rest —
    in particular no sum file. -/
theorem goPkgs_fail (parses : Str → Bool) (order) (a : Args) (root : Str) (prev) (all : List Pkg)
    (gens : List Gen) (ps : List Pkg) (err : Err) :
    ∀ (eff : List Effect), (goPkgs parses order a root prev all gens ps eff).2 = some err →
      ∃ pre p post, ps.filter (processed a prev) = pre ++ p :: post ∧
        (pkgExecute parses order a p gens).2 = some err ∧
        (goPkgs parses order a root prev all gens ps eff).1 =
          eff ++ (pre.flatMap fun q => (pkgExecute parses order a q gens).1) ++ (pkgExecute parses order a p gens).1 := by
  intro eff h
  rcases goPkgs_cases parses order a root prev all gens ps eff with hc | ⟨pre, p, post, err', h1, h2, hc⟩ <;>
    rw [hc] at h ⊢ <;> cases h
  exact ⟨pre, p, post, h1, h2, rfl⟩

/-- corollary: in a failing run no effect is a sum-file write (cf. `execute_sum_last`) and every
    effect belongs to a processed package's own `<base>.*` files -/
theorem goPkgs_fail_own (parses : Str → Bool) (order) (a : Args) (root : Str) (prev) (all : List Pkg)
    (gens : List Gen) (ps : List Pkg) (err : Err)
    (h : (goPkgs parses order a root prev all gens ps []).2 = some err) :
    ∀ e ∈ (goPkgs parses order a root prev all gens ps []).1, ∃ q ∈ ps, Own a q e := by
  obtain ⟨pre, p, post, h1, _, h3⟩ := goPkgs_fail parses order a root prev all gens ps err [] h
  intro e he
  rw [h3] at he
  have hsub : ∀ q, q ∈ pre ++ p :: post → q ∈ ps := fun q hq => (List.mem_filter.mp (h1 ▸ hq)).1
  simp only [List.nil_append, List.mem_append, List.mem_flatMap] at he
  rcases he with ⟨q, hq, heq⟩ | hep
  · exact ⟨q, hsub q (by simp [hq]), pkgExecute_own parses order a q gens e heq⟩
  · exact ⟨p, hsub p (by simp), pkgExecute_own parses order a p gens e hep⟩

#print axioms goPkgs_fail
end Gengo.Pipeline

import Gengo.Props.C20a
import Gengo.Props.C20b
namespace Gengo.Inflect

/-! ### C20: "inflected exactly as on its own", spelled out -/

/-- the replacement text: first rune of the word *as written*, then the table replacement's tail -/
theorem irregular_spelled (c : Cfg) (p w repl : Str) (hw : w ≠ []) (hword : ∀ x ∈ w, c.isWord x = true)
    (hb : boundary c p w = true) (hm : matchesTable c w = true)
    (hl : c.table.lookup (w.map c.lower) = some repl) :
    irregular c true (p ++ w) = .ok (p ++ w.take 1 ++ repl.drop 1) := by
  rw [irregular_of_find (find_prefix c p w hw hword hb hm), hl]

/-- same first rune ⇒ keeping the written first rune and appending the replacement's tail is the
    replacement itself (the table facts `plural_heads` / `singular_heads` provide the premise for
    every entry of rules.go) -/
theorem take_drop_same_head (k v : Str) (hk : k ≠ []) (hh : k.head? = v.head?) : k.take 1 ++ v.drop 1 = v := by
  cases k with
  | nil => exact absurd rfl hk
  | cons a as =>
    cases v with
    | nil => cases hh
    | cons b bs => cases hh; rfl

/-- a lower-case table word after any boundary-ending prefix becomes prefix + table replacement -/
theorem irregular_entry (c : Cfg) (p k v : Str) (hk : k ≠ []) (hword : ∀ x ∈ k, c.isWord x = true)
    (hb : boundary c p k = true) (hm : matchesTable c k = true)
    (hl : c.table.lookup (k.map c.lower) = some v) (hh : k.head? = v.head?) :
    irregular c true (p ++ k) = .ok (p ++ v) := by
  rw [irregular_spelled c p k v hk hword hb hm hl, List.append_assoc, take_drop_same_head k v hk hh]

#print axioms irregular_entry
end Gengo.Inflect

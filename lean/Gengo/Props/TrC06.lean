import Gengo.Gen.Code.C06
import Gengo.Model.Tags
import Gengo.Model.Pipeline
import Gengo.Props.Small
import Gengo.Props.GoRtLemmas
/-!
C06 / C04, tie by translation: `Gengo.Code.IsGeneratorEnabled` and `Gengo.Code.merge`, regenerated by `go2lean` from
`pkg/gengo/context.go` and `pkg/gengo/genfile.go` on every run, against the hand-written models: the early-return
loop `Tags.isEnabled` (about which `Props/C06a` proves `enabled_spec` and `enabled_perm`) and the per-key precedence
of `merge3` (`Props/Small.merge_precedence`).
-/
namespace Gengo.TrC06
open Gengo Gengo.Go Gengo.Code Gengo.Pipeline

/-- the value the caller of the loop returns, whether the loop left by `return` or ran to its end -/
def collapse : Ctl Bool Bool → Bool
  | .next b => b
  | .ret b => b

theorem isEnabled_loop (gName pfx : Str) (tags : List (Str × List Str)) (en : Bool) :
    collapse <$> IsGeneratorEnabled.loop1 gName pfx tags en = pure (Tags.isEnabledLoop pfx tags en) := by
  induction tags generalizing en with
  | nil => rfl
  | cons kv rest ih =>
    obtain ⟨k, vs⟩ := kv
    rw [IsGeneratorEnabled.loop1, Tags.isEnabledLoop]
    by_cases hk : k = pfx
    · -- the code tests `joined != "false"`, the model `decide (joined ≠ "false".toList)`: the same Boolean
      -- (`bne_eq_decide_not_eq`), the two spellings of the literal agree by evaluation
      rw [if_pos (beq_iff_eq.mpr hk), if_pos hk, map_pure, GoRtLemmas.strJoin_nil]
      exact congrArg pure (Lean.Grind.bne_eq_decide_not_eq ..)
    · -- the flag a `prefix:` key sets is the argument the model goes on with
      rw [if_neg (mt beq_iff_eq.mp hk), if_neg hk]
      exact (ih _).trans (congrArg pure (apply_ite ..))

/-- the translated `IsGeneratorEnabled` is the model's early-return loop, for every presentation of the tag map -/
theorem isGeneratorEnabled_eq (gName : Str) (tags : List (Str × List Str)) :
    Code.IsGeneratorEnabled gName tags = pure (Tags.isEnabled gName tags) := by
  rw [Tags.isEnabled, ← isEnabled_loop gName, map_eq_pure_bind]
  exact congrArg _ (funext fun c => by cases c <;> rfl)

/-! `merge`: the translated code builds the merged map by assignment; as a finite map it is the model's `merge3` -/

/-- "the last binding wins" lookup of a presentation of a map -/
def lastLookup (m : List (Str × List Str)) (k : Str) : Option (List Str) := m.reverse.lookup k

theorem merge_loop2 (tags acc : List (Str × List Str)) :
    merge.loop2 tags acc = pure (tags.foldl (fun m kv => Go.mapSet m kv.1 kv.2) acc) := by
  induction tags generalizing acc with
  | nil => rfl
  | cons kv rest ih => exact ih _

theorem merge_loop1 (maps : List (List (Str × List Str))) (acc : List (Str × List Str)) :
    merge.loop1 maps acc = pure (maps.flatten.foldl (fun m kv => Go.mapSet m kv.1 kv.2) acc) := by
  induction maps generalizing acc with
  | nil => rfl
  | cons m rest ih => rw [merge.loop1, merge_loop2, pure_bind, ih, List.flatten_cons, List.foldl_append]

/-- the translated `merge(globals, pkgTags, declTags)` never fails and, per key, a later map overrides an earlier one:
    with maps presented without repeated keys this is `merge_precedence` of the model's `merge3` -/
theorem merge_eq (g p d : List (Str × List Str)) :
    ∃ r, Code.merge [g, p, d] = pure r ∧
      ∀ k, r.lookup k = (lastLookup d k <|> lastLookup p k <|> lastLookup g k) := by
  refine ⟨_, by rw [Code.merge, merge_loop1], fun k => ?_⟩
  simp only [GoRtLemmas.lookup_foldl_mapSet, List.flatten_cons, List.flatten_nil, List.append_nil, List.reverse_append,
    List.lookup_append, lastLookup, Option.orElse_eq_orElse, Option.orElse_eq_or, Option.or_assoc]

theorem lastLookup_of_distinct (m : List (Str × List Str)) (hd : (m.map (·.1)).Nodup) (k : Str) :
    lastLookup m k = m.lookup k :=
  (Assoc.lookup_perm (List.reverse_perm m).symm hd k).symm

/-- … and so agrees, key by key, with the model's `merge3` (`merge_precedence`) on maps without repeated keys -/
theorem merge_eq_merge3 (g p d : List (Str × List Str))
    (hg : (g.map (·.1)).Nodup) (hp : (p.map (·.1)).Nodup) (hd : (d.map (·.1)).Nodup) :
    ∃ r, Code.merge [g, p, d] = pure r ∧ ∀ k, r.lookup k = (merge3 g p d).lookup k := by
  obtain ⟨r, hr, hl⟩ := merge_eq g p d
  refine ⟨r, hr, fun k => ?_⟩
  rw [hl, merge_precedence, lastLookup_of_distinct g hg, lastLookup_of_distinct p hp, lastLookup_of_distinct d hd]

example : Code.IsGeneratorEnabled "x".toList [("gengo:x:opt".toList, [[]]), ("gengo:x".toList, ["false".toList])] = .ok false := by
  simp only [String.reduceToList]; rfl
example : Code.IsGeneratorEnabled "x".toList [("gengo:x:opt".toList, [[]])] = .ok true := by
  simp only [String.reduceToList]; rfl

end Gengo.TrC06

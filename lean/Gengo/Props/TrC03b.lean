import Gengo.Gen.Code.C03
import Gengo.Model.Tracker
import Gengo.Props.TrC03
import Gengo.Props.GoRtLemmas
import Gengo.Props.C03a
/-!
`(*defaultImportTracker).add` of pkg/namer/import_tracker.go as translated (`Gengo.Code.trackerAdd`) against the model
`Tracker.add` the C03 theorems are about (unique, valid, unreserved names: `Props/C03a…d`).

The translation reads the receiver as a value of the model's own structure `Tracker` (its two maps) and returns its final
value; the closure `bind` becomes a definition that returns its answer together with the tracker; the candidate loop
ranges over `len(parts)`, the fallback loop `for i := 1; ; i++` runs on fuel.  Abstract: `token.IsIdentifier`
(`isIdent`), the table of standard-library names (`stdMap`), the `strings.Map` that sanitises the last candidate
(`sanitize`), the test that puts `pkg` in front (`needsPkg`), `strconv.Itoa` (`itoa`), and `toLocalName` (`toLN`, as in
`TrC03`).
-/
namespace Gengo.TrC03b
open Gengo Gengo.Go Gengo.Tracker Gengo.GoRtLemmas

/-- the tracker after `bind` has succeeded for `n` -/
def bound (t : Tracker) (p n : Str) : Tracker := ⟨Go.mapSet t.p2n p n, Go.mapSet t.n2p n p⟩

/-- the model's configuration as the code has it -/
def cfgOf (isIdent : Str → Bool) (stdMap : List (Str × Str)) (cands : List Str) (fb : Nat → Str) : Cfg where
  cands := fun _ => cands
  reserved := fun n p => match stdMap.lookup n with
    | some q => q != p
    | none => false
  stdNames := stdMap.map (·.1)
  valid := isIdent
  useFallback := true
  fallback := fun _ i => fb i

theorem bind_spec (toLN isIdent stdMap sanitize needsPkg itoa fuel) (cands : List Str) (fb : Nat → Str)
    (path : Str) (t : Tracker) (n : Str) :
    Code.trackerAdd.bind toLN isIdent stdMap sanitize needsPkg itoa fuel path t n
      = pure (free (cfgOf isIdent stdMap cands fb) t path n,
              if free (cfgOf isIdent stdMap cands fb) t path n then bound t path n else t) := by
  obtain ⟨p2n, n2p⟩ := t
  have hres : (Go.mapHas stdMap n && (Go.mapGet stdMap n [] != path))
      = (cfgOf isIdent stdMap cands fb).reserved n path := by
    simp only [mapHas_lookup, mapGet_lookup, cfgOf]
    cases stdMap.lookup n <;> rfl
  have hv : (cfgOf isIdent stdMap cands fb).valid = isIdent := rfl
  have hu : (cfgOf isIdent stdMap cands fb).useFallback = true := rfl
  simp only [Code.trackerAdd.bind, if_true]
  rw [hres, mapHas_lookup, free, hv, hu]
  cases isIdent n <;> cases (cfgOf isIdent stdMap cands fb).reserved n path <;> cases n2p.lookup n <;> rfl

/-- the candidate loop: the first free candidate is bound and the function returns; none free: on to the fallback -/
theorem loop1_spec (toLN isIdent stdMap sanitize needsPkg itoa fuel) (cands : List Str) (fb : Nat → Str)
    (path : Str) (parts : List Str) (cand : Int → Str) (t : Tracker) (is : List Int)
    (hc : ∀ i ∈ is, Code.localName toLN parts (i + 1) = pure (cand i)) :
    Code.trackerAdd.loop1 toLN isIdent stdMap sanitize needsPkg itoa fuel path parts is t
      = pure (match (is.map cand).find? (free (cfgOf isIdent stdMap cands fb) t path) with
              | some n => .ret (bound t path n)
              | none => .next t) := by
  induction is with
  | nil => rfl
  | cons i rest ih =>
    rw [Code.trackerAdd.loop1, hc i List.mem_cons_self, pure_bind,
      bind_spec toLN isIdent stdMap sanitize needsPkg itoa fuel cands fb, pure_bind, List.map_cons, List.find?_cons]
    cases free _ t path (cand i)
    · exact ih fun j hj => hc j (List.mem_cons_of_mem _ hj)
    · rfl

/-- the fallback loop on fuel: the model's `firstFree` over the same names, started one lower (the code counts from 1) -/
theorem loop2_spec (toLN isIdent stdMap sanitize needsPkg itoa fuel0) (cands : List Str)
    (path base : Str) (t : Tracker) (fuel j : Nat) :
    Code.trackerAdd.loop2 toLN isIdent stdMap sanitize needsPkg itoa fuel0 path base fuel t ((j : Int) + 1)
      = match firstFree (cfgOf isIdent stdMap cands (fun i => base ++ itoa ((i : Int) + 1))) t path fuel j with
        | some n => pure (.ret (bound t path n))
        | none => throw .fuel := by
  induction fuel generalizing j with
  | zero => rfl
  | succ k ih =>
    rw [Code.trackerAdd.loop2, if_pos rfl, bind_spec toLN isIdent stdMap sanitize needsPkg itoa fuel0 cands
      (fun i => base ++ itoa ((i : Int) + 1)), pure_bind, firstFree,
      show (cfgOf isIdent stdMap cands fun i => base ++ itoa ((i : Int) + 1)).fallback path j = base ++ itoa ((j : Int) + 1) from rfl]
    cases free _ t path (base ++ itoa ((j : Int) + 1))
    · exact ih (j + 1)
    · rfl

def candsOf (ln : List Str → Str) (path : Str) : List Str :=
  (List.range (Go.strSplit path ['/']).length).map fun k => ln (TrC03.parts (Go.strSplit path ['/']) (k + 1))

def baseOf (ln : List Str → Str) (sanitize : Str → Str) (needsPkg : Str → Bool) (path : Str) : Str :=
  let b := sanitize (ln (TrC03.parts (Go.strSplit path ['/']) (Go.strSplit path ['/']).length))
  if needsPkg b then ['p', 'k', 'g'] ++ b else b

/-- the model's configuration for one `add path` of the code -/
def cfgFor (ln : List Str → Str) (isIdent : Str → Bool) (stdMap : List (Str × Str)) (sanitize : Str → Str)
    (needsPkg : Str → Bool) (itoa : Int → Str) (path : Str) : Cfg :=
  cfgOf isIdent stdMap (candsOf ln path) (fun i => baseOf ln sanitize needsPkg path ++ itoa ((i : Int) + 1))

/-- the candidates as the code ranges over them -/
theorem map_intRange_eq_candsOf (ln : List Str → Str) (path : Str) :
    (Go.intRange (Go.len (Go.strSplit path ['/']))).map (fun i => ln (TrC03.parts (Go.strSplit path ['/']) (i.toNat + 1)))
      = candsOf ln path := by
  rw [Go.intRange, List.map_map]; rfl

/-- the translated `add` on any fuel: the first free candidate, or else the first free fallback name the fuel reaches -/
theorem trackerAdd_fuel (ln : List Str → Str) (toLN : List Str → M Str) (hLN : ∀ ps, toLN ps = pure (ln ps))
    (isIdent : Str → Bool) (stdMap : List (Str × Str)) (sanitize : Str → Str) (needsPkg : Str → Bool) (itoa : Int → Str)
    (fuel : Nat) (t : Tracker) (path : Str) :
    Code.trackerAdd toLN isIdent stdMap sanitize needsPkg itoa fuel t path
      = if (t.p2n.lookup path).isSome then pure t
        else match (candsOf ln path).find? (free (cfgFor ln isIdent stdMap sanitize needsPkg itoa path) t path)
            <|> firstFree (cfgFor ln isIdent stdMap sanitize needsPkg itoa path) t path fuel 0 with
          | some n => pure (bound t path n)
          | none => throw .fuel := by
  obtain ⟨p2n, n2p⟩ := t
  unfold Code.trackerAdd cfgFor
  simp only [mapHas_lookup]
  cases p2n.lookup path with
  | some q => rfl
  | none =>
    have hcand : ∀ n : Nat, Code.localName toLN (Go.strSplit path ['/']) (n : Int)
        = pure (ln (TrC03.parts (Go.strSplit path ['/']) n)) :=
      fun n => (TrC03.localName_parts toLN _ n).trans (hLN _)
    rw [loop1_spec toLN isIdent stdMap sanitize needsPkg itoa fuel (candsOf ln path)
        (fun i => baseOf ln sanitize needsPkg path ++ itoa ((i : Int) + 1)) path _
        (fun i => ln (TrC03.parts (Go.strSplit path ['/']) (i.toNat + 1))) _ _
        (fun i hi => by
          obtain ⟨k, -, rfl⟩ := List.mem_map.mp hi
          exact hcand (k + 1)),
      map_intRange_eq_candsOf, pure_bind]
    cases (candsOf ln path).find? _ with
    | some n => rfl
    | none =>
      have hlast : Code.localName toLN (Go.strSplit path ['/']) (Go.len (Go.strSplit path ['/'])) = _ := hcand _
      simp only [hlast, pure_bind]
      -- the code starts at `1`, `loop2_spec` at `↑0 + 1`: equal by computation, not to `rw`
      refine (congrArg (· >>= _) (loop2_spec toLN isIdent stdMap sanitize needsPkg itoa fuel (candsOf ln path) path
        (baseOf ln sanitize needsPkg path) _ fuel 0)).trans ?_
      cases firstFree _ _ path fuel 0 <;> rfl

/-- the translated `add` is the model's `choose` followed by the two map writes, with the fuel the model searches
    with; running out of it (`Err.fuel`) is what the model's `none` is -/
theorem trackerAdd_eq (ln : List Str → Str) (toLN : List Str → M Str) (hLN : ∀ ps, toLN ps = pure (ln ps))
    (isIdent : Str → Bool) (stdMap : List (Str × Str)) (sanitize : Str → Str) (needsPkg : Str → Bool) (itoa : Int → Str)
    (t : Tracker) (path : Str) :
    Code.trackerAdd toLN isIdent stdMap sanitize needsPkg itoa
        (t.n2p.length + (cfgFor ln isIdent stdMap sanitize needsPkg itoa path).stdNames.length + 1) t path
      = if (t.p2n.lookup path).isSome then pure t
        else match choose (cfgFor ln isIdent stdMap sanitize needsPkg itoa path) t path with
          | some n => pure (bound t path n)
          | none => throw .fuel := by
  rw [trackerAdd_fuel ln toLN hLN, choose,
    show (cfgFor ln isIdent stdMap sanitize needsPkg itoa path).cands path = candsOf ln path from rfl]
  cases (candsOf ln path).find? _ <;> rfl

/-- two trackers that answer every lookup alike (the code writes into its maps in place, the model conses) -/
def LookupEq (a b : Tracker) : Prop := ∀ k, a.p2n.lookup k = b.p2n.lookup k ∧ a.n2p.lookup k = b.n2p.lookup k

theorem bound_lookupEq (t : Tracker) (p n : Str) :
    LookupEq (bound t p n) ⟨(p, n) :: t.p2n, (n, p) :: t.n2p⟩ :=
  fun k => ⟨lookup_mapSet_cons t.p2n p k n, lookup_mapSet_cons t.n2p n k p⟩

/-- the hypotheses of the C03 theorems (`FallbackOK`) for the configuration of the code: the fallback names are distinct
    and identifiers — facts about `strconv.Itoa` and the sanitiser, proved for their models in `Props/C03c` -/
theorem fallbackOK_for (ln isIdent stdMap sanitize needsPkg itoa) (path : Str)
    (hinj : ∀ i j : Nat, itoa ((i : Int) + 1) = itoa ((j : Int) + 1) → i = j)
    (hvalid : ∀ i : Nat, isIdent (baseOf ln sanitize needsPkg path ++ itoa ((i : Int) + 1)) = true) :
    FallbackOK (cfgFor ln isIdent stdMap sanitize needsPkg itoa path) where
  on := rfl
  inj := by
    intro p i j h
    exact hinj i j (List.append_cancel_left h)
  valid := by intro p i; exact hvalid i
  std := by
    intro n p h
    simp only [cfgFor, cfgOf] at h ⊢
    cases hl : stdMap.lookup n with
    | none => simp [hl] at h
    | some q => exact List.mem_map.mpr ⟨(n, q), Assoc.mem_of_lookup hl, rfl⟩

/-- C03, of the translated code: `add` returns (no panic, the fuel suffices), and the tracker it leaves answers every
    lookup like the model's `Tracker.add` — about which `Props/C03a…d` prove that names are unique, valid, unreserved
    and that every added path is bound -/
theorem code_add_refines (ln : List Str → Str) (toLN : List Str → M Str) (hLN : ∀ ps, toLN ps = pure (ln ps))
    (isIdent : Str → Bool) (stdMap : List (Str × Str)) (sanitize : Str → Str) (needsPkg : Str → Bool) (itoa : Int → Str)
    (t : Tracker) (path : Str)
    (hok : FallbackOK (cfgFor ln isIdent stdMap sanitize needsPkg itoa path)) :
    ∃ r, Code.trackerAdd toLN isIdent stdMap sanitize needsPkg itoa
        (t.n2p.length + (cfgFor ln isIdent stdMap sanitize needsPkg itoa path).stdNames.length + 1) t path = .ok r ∧
      LookupEq r (add (cfgFor ln isIdent stdMap sanitize needsPkg itoa path) t path) := by
  rw [trackerAdd_eq ln toLN hLN, add]
  obtain ⟨n, hn⟩ := Option.isSome_iff_exists.mp (choose_isSome _ hok t path)
  split
  · exact ⟨t, rfl, fun k => ⟨rfl, rfl⟩⟩
  · rw [hn]; exact ⟨bound t path n, rfl, bound_lookupEq t path n⟩

/-- non-vacuity: the last segment is free and is bound; when it is taken, two segments; an identifier test that rejects
    every candidate sends the code to the fallback -/
example : Code.trackerAdd (fun ps => pure ps.flatten) (fun _ => true) [] id (fun _ => false) (fun _ => ['1']) 3
    ⟨[], []⟩ "a/b".toList = .ok ⟨[("a/b".toList, "b".toList)], [("b".toList, "a/b".toList)]⟩ := by
  simp only [String.reduceToList]; rfl
example : Code.trackerAdd (fun ps => pure ps.flatten) (fun _ => true) [] id (fun _ => false) (fun _ => ['1']) 3
    ⟨[("x/b".toList, "b".toList)], [("b".toList, "x/b".toList)]⟩ "a/b".toList
    = .ok ⟨[("x/b".toList, "b".toList), ("a/b".toList, "ab".toList)], [("b".toList, "x/b".toList), ("ab".toList, "a/b".toList)]⟩ := by
  simp only [String.reduceToList]; rfl
example : Code.trackerAdd (fun ps => pure ps.flatten) (fun n => n == "pkgab1".toList) [] id (fun _ => true) (fun _ => ['1']) 3
    ⟨[], []⟩ "a/b".toList = .ok ⟨[("a/b".toList, "pkgab1".toList)], [("pkgab1".toList, "a/b".toList)]⟩ := by
  simp only [String.reduceToList]; rfl

#print axioms trackerAdd_eq
#print axioms code_add_refines
#print axioms bind_spec
#print axioms loop1_spec
#print axioms loop2_spec
end Gengo.TrC03b

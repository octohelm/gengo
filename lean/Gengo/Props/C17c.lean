import Gengo.Props.C17a
/-!
C17 `compiles_ok`: the file the repaired generator emits type-checks against the methods it contains.  `Spec` is what
one `generateType` call guarantees about what it emits and about the `processed` set; it composes along the loop over
the dependencies (`Spec.comp`, `Spec.cons`), which gives `emit_spec` by induction on the fuel and `emitAll_closed` for
the package.
-/
namespace Gengo.DeepCopy

/-- same-package dependencies of a declaration (what `OnLocalDep` collects) -/
def depsOf (p : Pkg) (id : Nat) : List (Nat × Bool) :=
  match p[id]? with
  | some d => localDeps d
  | none => []

/-- by-value struct nesting is acyclic: dependencies have lower indices -/
def Acyclic (p : Pkg) : Prop := ∀ id, ∀ ji ∈ depsOf p id, ji.1 < id

/-- what a generation step guarantees about its output `o` and the `processed` set -/
structure Spec (p : Pkg) (seen : Seen) (o : List Nat) (s' : Seen) : Prop where
  mono : ∀ k ∈ seen, k ∈ s'
  new : ∀ k ∈ s', k ∈ seen ∨ (k.2 = false ∧ k.1 ∈ o)
  nodup : o.Nodup
  fresh : ∀ x ∈ o, (x, false) ∉ seen ∧ (x, false) ∈ s'
  closed : ∀ x ∈ o, ∀ ji ∈ depsOf p x, (ji.1, false) ∈ s'

theorem Spec.refl {p : Pkg} {seen : Seen} : Spec p seen [] seen :=
  ⟨fun _ h => h, fun _ h => Or.inl h, List.nodup_nil, fun _ h => (nomatch h), fun _ h => (nomatch h)⟩

theorem Spec.comp {p : Pkg} {seen s1 s2 : Seen} {o1 o2 : List Nat}
    (h1 : Spec p seen o1 s1) (h2 : Spec p s1 o2 s2) : Spec p seen (o1 ++ o2) s2 where
  mono := fun k hk => h2.mono k (h1.mono k hk)
  new := by
    intro k hk
    rcases h2.new k hk with h | ⟨hf, ho⟩
    · rcases h1.new k h with h' | ⟨hf, ho⟩
      · exact Or.inl h'
      · exact Or.inr ⟨hf, List.mem_append_left _ ho⟩
    · exact Or.inr ⟨hf, List.mem_append_right _ ho⟩
  nodup := by
    rw [List.nodup_append]
    refine ⟨h1.nodup, h2.nodup, ?_⟩
    intro a ha b hb hab
    subst hab
    exact (h2.fresh a hb).1 (h1.fresh a ha).2
  fresh := List.forall_mem_append.mpr
    ⟨fun x hx => ⟨(h1.fresh x hx).1, h2.mono _ (h1.fresh x hx).2⟩,
     fun x hx => ⟨fun hs => (h2.fresh x hx).1 (h1.mono _ hs), (h2.fresh x hx).2⟩⟩
  closed := List.forall_mem_append.mpr ⟨fun x hx ji hji => h2.mono _ (h1.closed x hx ji hji), h2.closed⟩

/-- the step of `emit`: `id`, not processed before, is put in front of what was generated for its
    dependencies with `id` marked as processed -/
theorem Spec.cons {p : Pkg} {seen s' : Seen} {o : List Nat} {id : Nat} (hnot : (id, false) ∉ seen)
    (hs : Spec p ((id, false) :: seen) o s') (hdeps : ∀ ji ∈ depsOf p id, (ji.1, false) ∈ s') :
    Spec p seen (id :: o) s' where
  mono := fun k hk => hs.mono k (List.mem_cons_of_mem _ hk)
  new := by
    intro k hk
    rcases hs.new k hk with h | ⟨hf, ho⟩
    · rcases List.mem_cons.mp h with rfl | h
      · exact Or.inr ⟨rfl, List.mem_cons_self ..⟩
      · exact Or.inl h
    · exact Or.inr ⟨hf, List.mem_cons_of_mem _ ho⟩
  nodup := List.nodup_cons.mpr ⟨fun hmem => (hs.fresh id hmem).1 (List.mem_cons_self ..), hs.nodup⟩
  fresh := List.forall_mem_cons.mpr
    ⟨⟨hnot, hs.mono _ (List.mem_cons_self ..)⟩,
     fun x hx => ⟨fun h => (hs.fresh x hx).1 (List.mem_cons_of_mem _ h), (hs.fresh x hx).2⟩⟩
  closed := List.forall_mem_cons.mpr ⟨hdeps, hs.closed⟩

/-- what a recursive call must deliver for a dependency -/
def RecOK (p : Pkg) (rec : Nat → Bool → Seen → List Nat × Seen) (j : Nat) : Prop :=
  ∀ i seen, Spec p seen (rec j i seen).1 (rec j i seen).2 ∧ (j, false) ∈ (rec j i seen).2

theorem emitDeps_spec {p : Pkg} {rec : Nat → Bool → Seen → List Nat × Seen} {ds : List (Nat × Bool)}
    (hrec : ∀ ji ∈ ds, RecOK p rec ji.1) :
    ∀ seen, Spec p seen (emitDeps rec ds seen).1 (emitDeps rec ds seen).2 ∧
      ∀ ji ∈ ds, (ji.1, false) ∈ (emitDeps rec ds seen).2 := by
  intro seen
  fun_induction emitDeps rec ds seen with
  | case1 seen => exact ⟨.refl, fun _ h => nomatch h⟩
  | case2 j i _ seen _ _ ih =>
    obtain ⟨hji, hrec'⟩ := List.forall_mem_cons.mp hrec
    obtain ⟨h1, hj⟩ := hji i seen
    obtain ⟨h2, hrest⟩ := ih hrec'
    exact ⟨h1.comp h2, List.forall_mem_cons.mpr ⟨h2.mono _ hj, hrest⟩⟩

/-- the repaired `generateType`, called for a valid declaration that is enabled or needed on demand -/
theorem emit_spec (p : Pkg) (hac : Acyclic p) :
    ∀ fuel id onDemand, id < fuel → (∃ d, p[id]? = some d ∧ (d.enabled = true ∨ onDemand = true)) →
      ∀ inst seen, Spec p seen (emit true p fuel id onDemand inst seen).1 (emit true p fuel id onDemand inst seen).2 ∧
        (id, false) ∈ (emit true p fuel id onDemand inst seen).2 := by
  intro fuel
  induction fuel with
  | zero => exact fun id _ h => absurd h (Nat.not_lt_zero id)
  | succ k ih =>
    intro id onDemand hid ⟨d, hd, hen⟩ inst seen
    simp only [emit, if_true, List.contains_iff_mem]
    by_cases hseen : (id, false) ∈ seen
    · rw [if_pos hseen]
      exact ⟨.refl, hseen⟩
    · have hdeps : localDeps d = depsOf p id := by simp only [depsOf, hd]
      simp only [hseen, if_false, hd, Bool.true_and, (Bool.or_eq_true ..).mpr hen, Bool.not_true, Bool.false_eq_true, hdeps]
      have hrec : ∀ ji ∈ depsOf p id, RecOK p (fun j i s => emit true p k j true i s) ji.1 := by
        intro ji hji i s
        have hlt : ji.1 < id := hac id ji hji
        have hj : ji.1 < p.length := Nat.lt_trans hlt (List.getElem?_eq_some_iff.mp hd).1
        exact ih ji.1 true (Nat.lt_of_lt_of_le hlt (Nat.le_of_lt_succ hid)) ⟨p[ji.1], List.getElem?_eq_getElem hj, Or.inr rfl⟩ i s
      obtain ⟨hs, hall⟩ := emitDeps_spec hrec ((id, false) :: seen)
      exact ⟨hs.cons hseen hall, hs.mono _ (List.mem_cons_self ..)⟩

/-- the test by which `emitAll` selects the declarations it starts from -/
theorem enabled_iff (p : Pkg) (id : Nat) :
    (p[id]?.map (·.enabled)).getD false = true ↔ ∃ d, p[id]? = some d ∧ d.enabled = true := by
  cases p[id]? <;> simp

theorem emitAllAux_spec (p : Pkg) (hac : Acyclic p) {ids : List Nat}
    (hids : ∀ id ∈ ids, ∃ d, p[id]? = some d ∧ d.enabled = true) :
    ∀ seen, ∃ s', Spec p seen (emitAllAux true p ids seen) s' := by
  intro seen
  fun_induction emitAllAux true p ids seen with
  | case1 seen => exact ⟨seen, .refl⟩
  | case2 id _ seen _ ih =>
    obtain ⟨⟨d, hd, hen⟩, hrest⟩ := List.forall_mem_cons.mp hids
    have hlt : id < p.length + 1 := Nat.lt_succ_of_lt (List.getElem?_eq_some_iff.mp hd).1
    obtain ⟨h1, _⟩ := emit_spec p hac (p.length + 1) id false hlt ⟨d, hd, Or.inl hen⟩ false seen
    obtain ⟨s2, h2⟩ := ih hrest
    exact ⟨s2, h1.comp h2⟩

/-- the generated file, repaired generator: no method emitted twice, and every same-package type
    a generated struct copies through is itself generated -/
theorem emitAll_closed (p : Pkg) (hac : Acyclic p) :
    (emitAll true p).Nodup ∧
    ∀ x ∈ emitAll true p, ∀ ji ∈ depsOf p x, ji.1 ∈ emitAll true p := by
  obtain ⟨s', hs⟩ := emitAllAux_spec p hac (fun id hid => (enabled_iff p id).mp (List.mem_filter.mp hid).2) []
  refine ⟨hs.nodup, ?_⟩
  intro x hx ji hji
  rcases hs.new _ (hs.closed x hx ji hji) with h | ⟨_, h⟩
  · nomatch h
  · exact h

/-- C17 `compiles_ok` (repaired generator): for every package whose struct nesting is acyclic —
    any mix of tagged and untagged dependencies, defined maps and scalars, `error` fields, fields
    of instantiated generic types — the generated file type-checks against the methods it
    contains, on the first run and on every later one. -/
theorem compiles_ok (p : Pkg) (hac : Acyclic p) (prev : Bool) : compiles true prev p = true := by
  obtain ⟨hnd, hcl⟩ := emitAll_closed p hac
  simp only [compiles, Bool.and_eq_true, decide_eq_true_eq, List.all_eq_true]
  refine ⟨hnd, ?_⟩
  intro id hid
  cases hd : p[id]? with
  | none => rfl
  | some d =>
    simp only [Bool.or_eq_true, decide_eq_true_eq, List.all_eq_true]
    by_cases hs : d.under = .struct
    · right
      intro f hf
      cases f with
      | localNamed j i =>
        -- the field's type is a dependency, so its methods are in the file; which of them the statement
        -- calls is decided by `isMap`, as is which of them exists
        have hdep : (j, i) ∈ depsOf p id := by
          simp only [depsOf, hd, localDeps, hs, if_true, List.mem_filterMap]
          exact ⟨.localNamed j i, hf, rfl⟩
        have hj : j ∈ emitAll true p := hcl id hid (j, i) hdep
        simp only [fieldStmt, ptrFlag_fixed]
        cases hm : isMap p j <;> simp [stmtCompiles, hj, hm]
      | _ => rfl
    · left; exact hs

#print axioms compiles_ok
end Gengo.DeepCopy

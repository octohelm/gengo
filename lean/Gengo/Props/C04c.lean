import Gengo.Props.C04b
namespace Gengo.Pipeline

/-- `q` is `p` with its name → type table presented in another order -/
def TypesShuffled (p q : Pkg) : Prop := ∃ ts, q = { p with types := ts } ∧ p.types.Perm ts

def TypesDistinct (p : Pkg) : Prop := ∀ x ∈ p.types, ∀ y ∈ p.types, x.name = y.name → x = y

theorem pkgExecute_shuffled (parses : Str → Bool) (order) (a : Args) (gens : List Gen) {p q : Pkg}
    (h : TypesShuffled p q) (hd : TypesDistinct p) :
    pkgExecute parses order a q gens = pkgExecute parses order a p gens := by
  obtain ⟨ts, rfl, hperm⟩ := h
  exact pkgExecute_congr rfl rfl rfl fun g _ => runGen_types_perm a p g hperm hd

theorem goPkgs_shuffled (parses : Str → Bool) (order) (a : Args) (root : Str) (prev) (all : List Pkg)
    (gens : List Gen) (sh : Pkg → Pkg) (ps : List Pkg)
    (hsh : ∀ p ∈ ps, TypesShuffled p (sh p) ∧ TypesDistinct p) :
    ∀ eff, goPkgs parses order a root prev all gens (ps.map sh) eff = goPkgs parses order a root prev all gens ps eff := by
  refine fun eff => goPkgs_congr rfl rfl fun p hp => ?_
  obtain ⟨ts, hq, _⟩ := (hsh p hp).1
  exact ⟨by rw [hq]; rfl, pkgExecute_shuffled parses order a gens (hsh p hp).1 (hsh p hp).2⟩

/-- C04 `execute_deterministic`: present the local packages in any order, and inside every
    package present the name → type table in any order (Go map iteration, process restarts,
    entrypoint order): the whole run — every effect with its payload, the sum file's bytes, the
    result — is the same. -/
theorem execute_deterministic (parses : Str → Bool) (order) (a : Args) (root : Str) (prev) (gens : List Gen)
    (pkgs₁ pkgs₂ : List Pkg) (sh : Pkg → Pkg)
    (hperm : pkgs₂.Perm (pkgs₁.map sh))
    (hsh : ∀ p ∈ pkgs₁, TypesShuffled p (sh p) ∧ TypesDistinct p)
    (hd : ∀ x ∈ pkgs₁, ∀ y ∈ pkgs₁, x.path = y.path → x = y) :
    execute parses order a root prev pkgs₂ gens = execute parses order a root prev pkgs₁ gens := by
  have hsh' : ∀ p ∈ pkgs₁, (sh p).path = p.path ∧ (sh p).hash = p.hash ∧ (sh p).direct = p.direct ∧
      pkgExecute parses order a (sh p) gens = pkgExecute parses order a p gens := by
    intro p hp
    obtain ⟨ts, hq, _⟩ := (hsh p hp).1
    refine ⟨?_, ?_, ?_, pkgExecute_shuffled parses order a gens (hsh p hp).1 (hsh p hp).2⟩ <;> rw [hq]
  -- distinct paths survive the shuffle
  have hd' : ∀ x ∈ pkgs₁.map sh, ∀ y ∈ pkgs₁.map sh, x.path = y.path → x = y := by
    intro x hx y hy hxy
    obtain ⟨p, hp, rfl⟩ := List.mem_map.mp hx
    obtain ⟨q, hq, rfl⟩ := List.mem_map.mp hy
    rw [(hsh' p hp).1, (hsh' q hq).1] at hxy
    rw [hd p hp q hq hxy]
  rw [← execute_perm parses order a root prev gens hperm.symm hd']
  exact execute_congr rfl rfl rfl hsh'

#print axioms execute_deterministic
end Gengo.Pipeline

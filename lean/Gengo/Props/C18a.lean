import Gengo.Model.Partial
import Gengo.Props.C11a
/-!
C18 `fields_mirror` (`Model/Partial`): the generated struct has the origin's fields that are not omitted, in order, the
types by C11 `denote_typeLit`, the tags verbatim.  In front: the pinned rendering of a tag with a dot (F15).
-/
namespace Gengo.Partial
open Gengo.TypeLit

/-- pinned code (F15): a tag containing a dot is not printed verbatim -/
example : tagText false "json:\"a.b\"".toList = none ∧ tagText false "json:\"name\"".toList = some "json:\"name\"".toList := by
  simp only [String.reduceToList]; decide
example : tagText true "json:\"a.b\" doc:\"v1.2\"".toList = some "json:\"a.b\" doc:\"v1.2\"".toList := by
  simp only [String.reduceToList]; decide

/-- C18 `fields_mirror` (repaired code): the generated struct has exactly the origin's fields that
    are not omitted, in order, each with a type expression denoting the origin field's type and
    with the origin's tag. -/
theorem fields_mirror (env : Env) (sc : Scope) (hself : sc.self = env.self) (omitted : List Str)
    (fs : List OField) (hdom : ∀ f ∈ fs, InDom env sc f.ty) :
    (genFields true env omitted fs).map (fun g => (g.1, denote sc g.2.1, g.2.2)) =
      (fs.filter fun f => !omitted.contains f.name).map fun f => (f.name, some f.ty, some f.tag) := by
  unfold genFields
  rw [List.map_map]
  apply List.map_congr_left
  intro f hf
  simp [denote_typeLit env sc hself f.ty (hdom f (List.mem_filter.mp hf).1), tagText]

#print axioms fields_mirror
end Gengo.Partial

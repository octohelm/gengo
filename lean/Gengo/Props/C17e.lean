import Gengo.Props.C17a
import Gengo.Props.C17d
namespace Gengo.DeepCopy
open Gengo.Heap

/-! ### C17: from the generator model's statements to their meaning -/

/-- the shape of the values of a field type, following same-package declarations
    (`fuel` only bounds the by-value struct nesting, which is acyclic).  One unit per level of nesting: where it runs
    out a struct is cut to `.struct []`, so the whole shape needs more fuel than there are levels below the field.
    `semOf` is cut at the same level, which is why `semOf_fieldStmt` needs no hypothesis on the fuel. -/
def shapeOf (p : Pkg) : Nat → FT → Shape
  | _, .plain => .scalar
  | _, .errorT => .scalar
  | _, .slice => .slice
  | _, .map => .map
  | 0, .localNamed id _ =>
    match p[id]? with
    | none => .scalar
    | some d => match d.under with
      | .map => .map
      | .scalar => .scalar
      | .struct => .struct []
  | fuel + 1, .localNamed id _ =>
    match p[id]? with
    | none => .scalar
    | some d => match d.under with
      | .map => .map
      | .scalar => .scalar
      | .struct => .struct (d.fields.map (shapeOf p fuel))

/-- what an emitted statement does (the templates of copy_fields.go / deepcopy.go):
    `callInto` of a struct type runs that type's own field statements, of a defined scalar
    `*out = *in`; `viaCopy` of a defined map allocates and fills a new map.  `viaCopyDeref` and `panic` are never
    chosen by the repaired `fieldStmt`: what they are given here plays no part in `semOf_fieldStmt`. -/
def semOf (prev : Bool) (p : Pkg) : Nat → Stmt → Sem
  | _, .assign => .assign
  | _, .copySlice => .realloc
  | _, .copyMap => .realloc
  | _, .viaCopy _ => .realloc
  | _, .viaCopyDeref _ => .assign
  | _, .panic => .assign
  | 0, .callInto id =>
    match p[id]? with
    | none => .assign
    | some d => match d.under with
      | .struct => .into []
      | _ => .assign
  | fuel + 1, .callInto id =>
    match p[id]? with
    | none => .assign
    | some d => match d.under with
      | .struct => .into (d.fields.map fun f => semOf prev p fuel (fieldStmt true prev p f))
      | _ => .assign

/-- the repaired generator chooses, for every field type of the domain at every nesting
    depth, exactly the statement whose meaning is `Heap.choose` of the field's shape — hence
    (`exec_choose`, `deepCopy_no_sharing`) the generated `DeepCopyInto` is a deep copy. -/
theorem semOf_fieldStmt (prev : Bool) (p : Pkg) :
    ∀ fuel ft, semOf prev p fuel (fieldStmt true prev p ft) = choose (shapeOf p fuel ft) := by
  intro fuel
  induction fuel with
  | zero | succ fuel ih =>
    intro ft
    cases ft with
    | localNamed id inst =>
      simp only [fieldStmt, ptrFlag_fixed, isMap, shapeOf]
      cases hp : p[id]? with
      | none => simp [semOf, hp, choose]
      | some d =>
        -- a struct's statements are those of its fields, one level down (`ih`); without fuel both sides have no fields
        cases hu : d.under <;> simp [semOf, choose, chooseList_eq_map, *]
    | _ => rfl

/-- non-vacuity: `type A struct{ S []int; B B }`, `type B struct{ M M }`, `type M map[string]int` -/
example :
    let p : Pkg := [⟨.struct, [.slice, .localNamed 1 false], true, false⟩, ⟨.struct, [.localNamed 2 false], false, false⟩,
                    ⟨.map, [], false, false⟩]
    shapeOf p 3 (.localNamed 0 false) = .struct [.slice, .struct [.map]] := rfl

#print axioms semOf_fieldStmt
end Gengo.DeepCopy

namespace Gengo.Resolver
/-!
### C14 `closure_index_safe`

`callExprResultAt` (pkg/types/function_result_resolver.go, the `*ast.FuncLit` case of its loop over the
arguments): for a call whose result at the asked position is `error`, every function-literal
argument is inspected — for each result index of the
*literal's* signature, a tuple is indexed to ask whether that result is `error`.  The pinned code
indexes the *callee's* result tuple (`rets.At(inlineRetAt)`), the repaired code the literal's own
(`inlineFnRets.At(inlineRetAt)`).  `types.Tuple.At` panics out of range.  The core language of
`Model/Resolver` has no closures; this is the index arithmetic of that one loop on its own.
-/

/-- the (index, length of the indexed tuple) pairs the loop evaluates, for a callee with
    `calleeN` results and a literal with `closureN` results -/
def closureIdx (fixed : Bool) (calleeN closureN : Nat) : List (Nat × Nat) :=
  (List.range closureN).map fun i => (i, if fixed then closureN else calleeN)

/-- repaired code: every index is within the tuple it indexes, for all signatures -/
theorem closure_index_safe (calleeN closureN : Nat) : ∀ x ∈ closureIdx true calleeN closureN, x.1 < x.2 := by
  intro x hx
  obtain ⟨i, hi, rfl⟩ := List.mem_map.mp hx
  exact List.mem_range.mp hi

/-- pinned code: safe exactly when the literal has no more results than the callee -/
theorem closure_index_pinned (calleeN closureN : Nat) :
    (∀ x ∈ closureIdx false calleeN closureN, x.1 < x.2) ↔ closureN ≤ calleeN := by
  constructor
  · intro h
    cases closureN with
    | zero => exact Nat.zero_le _
    | succ k => exact h (k, calleeN) (List.mem_map.mpr ⟨k, List.mem_range.mpr (Nat.lt_succ_self k), rfl⟩)
  · intro h x hx
    obtain ⟨i, hi, rfl⟩ := List.mem_map.mp hx
    exact Nat.lt_of_lt_of_le (List.mem_range.mp hi) h

/-- F13b: `func f() error { return g(func() (int, error) { … }) }` with
    `func g(func() (int, error)) error` — callee 1 result, literal 2: index 1 of a 1-tuple -/
example : ∃ x ∈ closureIdx false 1 2, ¬ x.1 < x.2 := by decide

#print axioms closure_index_pinned
end Gengo.Resolver

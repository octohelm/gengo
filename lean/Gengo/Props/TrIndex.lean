import Gengo.Model.GoRt
import Gengo.Props.Index
/-!
The index functions of the run-time library (`Go.strIndex`, `Go.strLastIndex`) against the index functions of the
`TypeRef` model (`indexOf?`, `lastIndexOf?`, `lastIndexOfSub`).  Nothing here depends on
regenerated code.
-/
namespace Gengo.TrIndex
open Gengo Gengo.Go Gengo.TypeRef

/-- `Option Nat` index as Go reports it -/
def asInt : Option Nat → Int
  | some i => (i : Int)
  | none => -1

theorem asInt_beq (o : Option Nat) (n : Nat) : (asInt o == (n : Int)) = (o == some n) := by
  rw [Bool.eq_iff_iff]
  cases o <;> simp [asInt, Int.natCast_inj]

/-- The Go idiom `if i := strings.Index(…); i > 0 { x } else { return … }` against the model's `match` on the optional
    position: `x` need only be computed where the position exists and is positive.  `F` is whatever the model
    applies to the outcome of its `match`. -/
theorem ite_asInt_pos {α β : Type} (F : α → β) {o : Option Nat} {x : M β} {g : Nat → α} {b : α}
    (h : ∀ n, o = some n → 0 < n → x = pure (F (g n))) :
    (if decide (asInt o > 0) = true then x else pure (F b)) =
      pure (F (match (generalizing := false) o with | some n => if n > 0 then g n else b | none => b)) := by
  cases o with
  | none => rfl
  | some n =>
    by_cases hn : 0 < n
    · simp [asInt, hn, h n rfl hn]
    · simp [asInt, hn]

theorem isPrefixOf_singleton (c x : Char) (xs : Str) : [c].isPrefixOf (x :: xs) = (x == c) := by
  rw [List.isPrefixOf_cons_cons, List.isPrefixOf_nil_left, Bool.and_true, BEq.comm]

theorem strIndexAux_char (c : Char) (s : Str) (n : Nat) :
    Go.strIndexAux [c] s n = asInt ((indexOf? c s).map (n + ·)) := by
  induction s generalizing n with
  | nil => rfl
  | cons x xs ih =>
    rw [Go.strIndexAux, indexOf?, isPrefixOf_singleton, ih]
    split
    · rfl
    · simp [Nat.add_comm 1, Nat.add_assoc, Function.comp_def]

theorem strIndex_char (c : Char) (s : Str) : Go.strIndex s [c] = asInt (indexOf? c s) := by
  simp [Go.strIndex, strIndexAux_char]

theorem strLastIndexAux_sub (sub s : Str) (n : Nat) (best : Int) :
    Go.strLastIndexAux sub s n best = match lastIndexOfSub sub s with | some i => ((n + i : Nat) : Int) | none => best := by
  fun_induction Go.strLastIndexAux sub s n best with
  | case1 n _ h => rw [lastIndexOfSub, if_pos h]; rfl
  | case2 _ _ h => rw [lastIndexOfSub, if_neg h]
  | case3 x xs n best ih =>
    rw [ih, lastIndexOfSub]
    cases lastIndexOfSub sub xs with
    | some i => simp only [Nat.add_assoc, Nat.add_comm 1]
    | none => simp only []; split <;> rfl

theorem strLastIndex_sub (sub s : Str) : Go.strLastIndex s sub = asInt (lastIndexOfSub sub s) := by
  rw [Go.strLastIndex, strLastIndexAux_sub]
  cases lastIndexOfSub sub s <;> simp [asInt]

/-- the reverse-based `lastIndexOf?` of the model satisfies the recursion of `lastIndexOfSub` on one character -/
theorem lastIndexOf?_cons (c x : Char) (xs : Str) :
    lastIndexOf? c (x :: xs) = match lastIndexOf? c xs with
      | some i => some (i + 1)
      | none => if x == c then some 0 else none := by
  simp only [lastIndexOf?, List.reverse_cons, indexOf?_eq_findIdx?, List.findIdx?_append, List.length_cons,
    List.length_reverse, Nat.add_sub_cancel]
  cases h : xs.reverse.findIdx? (· == c) with
  | some k =>
    obtain ⟨hk, -⟩ := List.findIdx?_eq_some_iff_getElem.mp h
    rw [List.length_reverse] at hk
    exact congrArg some (show xs.length - k = xs.length - 1 - k + 1 by omega)
  | none => rw [List.findIdx?_singleton]; split <;> simp

theorem lastIndexOfSub_char (c : Char) (s : Str) : lastIndexOfSub [c] s = lastIndexOf? c s := by
  induction s with
  | nil => rfl
  | cons x xs ih => rw [lastIndexOf?_cons, lastIndexOfSub, ih, isPrefixOf_singleton]; rfl

theorem strLastIndex_char (c : Char) (s : Str) : Go.strLastIndex s [c] = asInt (lastIndexOf? c s) := by
  rw [strLastIndex_sub, lastIndexOfSub_char]

theorem lastIndexOfSub_le {sub s : Str} {i : Nat} (h : lastIndexOfSub sub s = some i) : i ≤ s.length := by
  fun_induction lastIndexOfSub sub s generalizing i with
  | case1 | case4 => cases h; exact Nat.zero_le _
  | case2 | case5 => cases h
  | case3 x xs k hk ih => cases h; exact Nat.succ_le_succ (ih hk)

end Gengo.TrIndex

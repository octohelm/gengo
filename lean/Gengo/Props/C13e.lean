import Gengo.Props.C13b
import Gengo.Props.Assoc
namespace Gengo.Register

/-! ### C13: `Imports()[path]` is the package `Universe.Package(path)` returns — every package is
registered exactly once, whatever order the roots arrive in -/

theorem lookup_isSome_iff (u : U) (p : Str) : (u.lookup p).isSome = true ↔ p ∈ keys u := by
  rw [Option.isSome_iff_ne_none, Ne, Assoc.lookup_eq_none, Decidable.not_not]
  rfl

/-- what one registration guarantees about the set of registered packages -/
def Once (h : Str → Nat) (rec : Str → U → U) (p : Str) : Prop :=
  ∀ u, (keys u).Nodup → p ∉ keys u →
    (keys (rec p u)).Nodup ∧ ∀ q ∈ keys (rec p u), q ∈ keys u ∨ h q ≤ h p

theorem registerDeps_eq_foldl (rec : Str → U → U) (is : List Str) (u : U) :
    registerDeps rec is u = is.foldl (fun u i => if (u.lookup i).isSome then u else rec i u) u := by
  induction is generalizing u with
  | nil => rfl
  | cons i is ih => exact ih _

theorem registerDeps_once (h : Str → Nat) (rec : Str → U → U) (is : List Str)
    (hrec : ∀ i ∈ is, Once h rec i) :
    ∀ u, (keys u).Nodup →
      (keys (registerDeps rec is u)).Nodup ∧
      ∀ q ∈ keys (registerDeps rec is u), q ∈ keys u ∨ ∃ i ∈ is, h q ≤ h i := by
  intro u hu
  rw [registerDeps_eq_foldl]
  refine List.foldlRecOn (motive := fun u' => (keys u').Nodup ∧ ∀ q ∈ keys u', q ∈ keys u ∨ ∃ i ∈ is, h q ≤ h i)
    is _ ⟨hu, fun q hq => Or.inl hq⟩ fun u' ⟨k1, k2⟩ i hi => ?_
  split
  · exact ⟨k1, k2⟩
  · next hreg =>
    obtain ⟨s1, s2⟩ := hrec i hi u' k1 fun hm => hreg ((lookup_isSome_iff u' i).mpr hm)
    exact ⟨s1, fun q hq => (s2 q hq).elim (k2 q) fun hle => Or.inr ⟨i, hi, hle⟩⟩

theorem register_once (g : Graph) (h : Str → Nat) (hd : DAG g h) :
    ∀ fuel p, h p < fuel → (node g p).isSome = true → Once h (register true g fuel) p := by
  intro fuel
  induction fuel with
  | zero => intro p hp; exact absurd hp (Nat.not_lt_zero _)
  | succ k ih =>
    intro p hp hn u hu hpu
    obtain ⟨n, hnode⟩ := Option.isSome_iff_exists.mp hn
    have hdown := hd.down p n hnode
    obtain ⟨d1, d2⟩ := registerDeps_once h (register true g k) n.imports
      (fun i hi => ih i (Nat.lt_of_lt_of_le (hdown i hi) (Nat.le_of_lt_succ hp))
        (hd.closed n (List.mem_of_find?_eq_some hnode) i hi)) u hu
    -- the dependencies lie below `p`, so registering them has not registered `p`
    have hp1 : p ∉ keys (registerDeps (register true g k) n.imports u) := fun hm =>
      (d2 p hm).elim hpu fun ⟨i, hi, hle⟩ => Nat.lt_irrefl _ (Nat.lt_of_lt_of_le (hdown i hi) hle)
    rw [register_succ hnode]
    refine ⟨List.nodup_cons.mpr ⟨hp1, d1⟩, fun q hq => ?_⟩
    rcases List.mem_cons.mp hq with rfl | hq
    · exact Or.inr (Nat.le_refl _)
    · exact (d2 q hq).imp_right fun ⟨i, hi, hle⟩ => Nat.le_trans hle (Nat.le_of_lt (hdown i hi))

/-- the repaired root loop treats the roots like the imports of a package: each is registered unless it is there
    already -/
theorem loadRoots_guarded (fixed : Bool) (g : Graph) (fuel : Nat) (roots : List Str) (u : U) :
    loadRoots true fixed g fuel roots u = registerDeps (register fixed g fuel) roots u := by
  induction roots generalizing u with
  | nil => rfl
  | cons r rs ih => exact ih _

/-- C13 `imports_same_package` (repaired root loop): for any list of roots of a closed acyclic
    import graph, in any order — in particular when a root arrives after a root that imports it —
    every package is registered exactly once, so the `Package` an import table points to is the one
    the universe returns. -/
theorem loadRoots_once (g : Graph) (h : Str → Nat) (hd : DAG g h) (fuel : Nat) :
    ∀ (roots : List Str) (u : U), (∀ r ∈ roots, h r < fuel ∧ (node g r).isSome = true) →
      (keys u).Nodup → (keys (loadRoots true true g fuel roots u)).Nodup := by
  intro roots u hr hu
  rw [loadRoots_guarded]
  exact (registerDeps_once h _ roots (fun r hm => register_once g h hd fuel r (hr r hm).1 (hr r hm).2) u hu).1

/-- pinned root loop: `p` imports `q` and both are roots, `p` arriving first (which is what happens when
    go/packages hands the patterns to `go list` in two chunks): `q` is registered twice -/
example :
    let g : Graph := [⟨['p'], [['q']]⟩, ⟨['q'], []⟩]
    keys (loadRoots false true g 5 [['p'], ['q']] []) = [['q'], ['p'], ['q']] ∧
    keys (loadRoots true true g 5 [['p'], ['q']] []) = [['p'], ['q']] := by decide

/-- the hypotheses are satisfiable: the two-package graph above is closed and acyclic -/
example : DAG [⟨['p'], [['q']]⟩, ⟨['q'], []⟩] (fun s => if s = ['p'] then 1 else 0) :=
  DAG.of_nodes (by decide)

#print axioms loadRoots_once
end Gengo.Register

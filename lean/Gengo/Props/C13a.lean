import Gengo.Model.Loader
import Gengo.Props.Assoc
/-!
C13 / C04, the name → object tables of `newPkg` (`Model/Loader`): with the scope test the table holds, for every name,
the package-scope object, in whatever order `Defs` is ranged (`typesTable_lookup`: the last hit wins, and package scope
has at most one); without the test the answer depends on the order (examples in front).
-/
namespace Gengo.Loader

def tPkg : Obj := { id := 1, name := ['T'], kind := .typeName, scope := .pkg }
def tLocal : Obj := { id := 2, name := ['T'], kind := .typeName, scope := .local_ }
def tParam : Obj := { id := 3, name := ['T'], kind := .typeName, scope := .typeParam }

/-- pinned code (F12a): which object `Type("T")` returns depends on the iteration order -/
example : lookupType false [tPkg, tLocal] ['T'] = some 2 ∧ lookupType false [tLocal, tPkg] ['T'] = some 1 := by decide
example : lookupType false [tPkg, tParam] ['T'] = some 3 := by decide
/-- repaired code: always the package-scope object -/
example : lookupType true [tPkg, tLocal] ['T'] = some 1 ∧ lookupType true [tLocal, tParam, tPkg] ['T'] = some 1 := by decide

theorem lookup_assign (m : List (Str × Nat)) (k k' : Str) (v : Nat) :
    (assign m k v).lookup k' = if k' = k then some v else m.lookup k' :=
  Assoc.lookup_cons_filter_ne m k k' v

/-- the predicate the repaired loop applies, restricted to one name -/
def hit (name : Str) (o : Obj) : Bool := o.kind = .typeName && o.scope = .pkg && o.name = name

theorem typesTable_cons (o : Obj) (os : List Obj) (m : List (Str × Nat)) :
    typesTable true (o :: os) m =
      typesTable true os (if o.kind = .typeName ∧ o.scope = .pkg then assign m o.name o.id else m) := by
  by_cases h : o.kind = .typeName ∧ o.scope = .pkg <;> simp [typesTable, h]

/-- one step of the repaired loop, seen from the entry for `name` -/
theorem lookup_step (name : Str) (o : Obj) (m : List (Str × Nat)) :
    (if o.kind = .typeName ∧ o.scope = .pkg then assign m o.name o.id else m).lookup name =
      if hit name o then some o.id else m.lookup name := by
  by_cases h : o.kind = .typeName ∧ o.scope = .pkg
  · simp [h, hit, lookup_assign, eq_comm]
  · -- the first two conjuncts of `hit` are the test of the loop
    have hd : hit name o = false := by rw [hit, ← Bool.decide_and, decide_eq_false h, Bool.false_and]
    rw [if_neg h, hd]
    rfl

/-- the repaired table holds, for each name, the *last* package-scope type object of that name
    in iteration order (and what was there before if there is none) -/
theorem typesTable_lookup (name : Str) (defs : List Obj) :
    ∀ (m : List (Str × Nat)),
      (typesTable true defs m).lookup name =
        match defs.reverse.find? (hit name) with
        | some o => some o.id
        | none => m.lookup name := by
  induction defs with
  | nil => intro m; rfl
  | cons o os ih =>
    intro m
    rw [typesTable_cons, ih, lookup_step, List.reverse_cons, List.find?_append]
    cases os.reverse.find? (hit name) with
    | some o' => rfl
    | none => cases h : hit name o <;> simp [h]

/-- package scope binds at most one type object to a name -/
def ScopeFunctional (defs : List Obj) : Prop :=
  ∀ a ∈ defs, ∀ b ∈ defs, hit a.name a = true → hit a.name b = true → a.id = b.id

/-- C13 `tables_exact` / C04 `table_order_free` (repaired code): `Type(name)` is the package-scope
    object of that name — whatever else `Defs` contains (function-local types, type parameters of
    the same name) and in whatever order the map is iterated. -/
theorem tables_exact (defs : List Obj) (hs : ScopeFunctional defs) (o : Obj) (ho : o ∈ defs)
    (hh : hit o.name o = true) : lookupType true defs o.name = some o.id := by
  unfold lookupType
  rw [typesTable_lookup]
  cases hf : defs.reverse.find? (hit o.name) with
  | some o' =>
    have hm : o' ∈ defs := by simpa using List.mem_of_find?_eq_some hf
    have hh' : hit o.name o' = true := List.find?_some hf
    simp [hs o ho o' hm hh hh']
  | none =>
    have := List.find?_eq_none.mp hf o (by simpa using ho)
    simp [hh] at this

theorem tables_only_pkg (defs : List Obj) (name : Str) (h : ∀ o ∈ defs, hit name o = false) :
    lookupType true defs name = none := by
  unfold lookupType
  rw [typesTable_lookup]
  have : defs.reverse.find? (hit name) = none :=
    List.find?_eq_none.mpr (fun o ho => by simpa using h o (by simpa using ho))
  simp [this]

#print axioms tables_exact
end Gengo.Loader

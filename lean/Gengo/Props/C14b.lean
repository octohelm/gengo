import Gengo.Model.Resolver
import Gengo.Props.Assoc
namespace Gengo.Resolver

/-! ### Termination of the repaired resolver, for every program

The measure is the number of `(function, result)` keys the visits table has not marked (`unv`);
`visited` marks one at every descent (`visited_spec`).  The lemmas about the table, the outcome
predicate `Ok`, the descent step `descend_ok` and the loop over the result positions `collectAux`
do not mention the core language's expressions: `Props/C14g` uses them for the extended language. -/

def nres (p : Prog) (f : Nat) : Nat := (p[f]?.map (·.results.length)).getD 0

def marked (vs : Visits) (f at_ : Nat) : Bool := ((vs.lookup f).bind (·[at_]?)).getD false

/-- all `(function, result index)` keys of a program -/
def keys (p : Prog) : List (Nat × Nat) :=
  (List.range p.length).flatMap fun f => (List.range (nres p f)).map fun a => (f, a)

/-- number of keys not yet marked -/
def unv (p : Prog) (vs : Visits) : Nat := ((keys p).filter fun k => !marked vs k.1 k.2).length

def WFV (p : Prog) (vs : Visits) : Prop := ∀ f marks, vs.lookup f = some marks → marks.length = nres p f

def Mono (vs vs' : Visits) : Prop := ∀ f a, marked vs f a = true → marked vs' f a = true

theorem Mono.refl (vs : Visits) : Mono vs vs := fun _ _ h => h
theorem Mono.trans {a b c : Visits} (h₁ : Mono a b) (h₂ : Mono b c) : Mono a c :=
  fun f x h => h₂ f x (h₁ f x h)

theorem nres_eq {p : Prog} {f : Nat} {fn : Func} (h : p[f]? = some fn) : nres p f = fn.results.length := by
  simp [nres, h]

theorem mem_keys {p : Prog} {f a : Nat} (hf : f < p.length) (ha : a < nres p f) : (f, a) ∈ keys p := by
  simp only [keys, List.mem_flatMap, List.mem_range, List.mem_map]
  exact ⟨f, hf, a, ha, rfl⟩

theorem unv_le_keys (p : Prog) (vs : Visits) : unv p vs ≤ (keys p).length :=
  List.length_filter_le _ _

/-- when marks are only added, the keys unmarked afterwards are among those unmarked before -/
theorem unv_of_mono (p : Prog) {vs vs' : Visits} (h : Mono vs vs') :
    unv p vs' = (((keys p).filter fun k => !marked vs k.1 k.2).filter fun k => !marked vs' k.1 k.2).length := by
  rw [unv, List.filter_filter]
  congr 1
  apply List.filter_congr
  intro k _
  cases hm : marked vs k.1 k.2 with
  | false => simp
  | true => simp [h _ _ hm]

theorem unv_mono (p : Prog) {vs vs' : Visits} (h : Mono vs vs') : unv p vs' ≤ unv p vs :=
  unv_of_mono p h ▸ List.length_filter_le _ _

theorem unv_strict {p : Prog} {vs vs' : Visits} (h : Mono vs vs') {f a : Nat} (hk : (f, a) ∈ keys p)
    (h0 : marked vs f a = false) (h1 : marked vs' f a = true) : unv p vs' < unv p vs := by
  rw [unv_of_mono p h]
  exact List.length_filter_lt_length_iff_exists.mpr
    ⟨(f, a), List.mem_filter.mpr ⟨hk, by simp [h0]⟩, by simp [h1]⟩

theorem lookup_setMark (vs : Visits) (f g : Nat) (m : List Bool) :
    (setMark vs f m).lookup g = if g = f then some m else vs.lookup g :=
  Assoc.lookup_cons_filter_ne vs f g m

theorem wfv_setMark {p : Prog} {vs : Visits} {f : Nat} {m : List Bool} (hw : WFV p vs)
    (hm : m.length = nres p f) : WFV p (setMark vs f m) := by
  intro g m' h
  rw [lookup_setMark] at h
  split at h
  · cases h
    subst g
    exact hm
  · exact hw g m' h

theorem marked_setMark (vs : Visits) (f g x : Nat) (m : List Bool) :
    marked (setMark vs f m) g x = if g = f then m.getD x false else marked vs g x := by
  rw [marked, lookup_setMark]
  split
  · exact List.getD_eq_getElem?_getD.symm
  · rfl

theorem getD_replicate_false (n i : Nat) : (List.replicate n false).getD i false = false := by
  rw [List.getD_eq_getElem?_getD, List.getElem?_replicate]
  split <;> rfl

theorem getD_set (l : List Bool) (a i : Nat) (ha : a < l.length) :
    (l.set a true).getD i false = if i = a then true else l.getD i false := by
  simp only [List.getD_eq_getElem?_getD, List.getElem?_set, ha, if_true, eq_comm (a := a)]
  split <;> rfl

/-- the marks of `f` that `visited` reads: the entry of `f`, all `false` when there is none yet -/
def marksOf (vs : Visits) (f n : Nat) : List Bool := (vs.lookup f).getD (List.replicate n false)

theorem marked_eq_getD_marksOf (vs : Visits) (f a n : Nat) : marked vs f a = (marksOf vs f n).getD a false := by
  unfold marked marksOf
  cases vs.lookup f with
  | none => exact (getD_replicate_false n a).symm
  | some m => exact List.getD_eq_getElem?_getD.symm

theorem length_marksOf {p : Prog} {vs : Visits} (hw : WFV p vs) (f : Nat) :
    (marksOf vs f (nres p f)).length = nres p f := by
  unfold marksOf
  cases h : vs.lookup f with
  | none => simp
  | some marks => exact hw f marks h

theorem visited_true (vs : Visits) (f a n : Nat) :
    visited true vs f a n =
      if marked vs f a then (true, vs) else (false, setMark vs f ((marksOf vs f n).set a true)) := by
  unfold visited marked marksOf
  cases vs.lookup f with
  | none => rfl
  | some m => simp only [List.getD_eq_getElem?_getD]; rfl

/-- the table after `visited` has marked `(f, a)`: that key, and what was marked before -/
theorem marked_setMark_set {vs : Visits} {f a n : Nat} (ha : a < (marksOf vs f n).length) (g x : Nat) :
    marked (setMark vs f ((marksOf vs f n).set a true)) g x =
      if g = f ∧ x = a then true else marked vs g x := by
  rw [marked_setMark]
  by_cases hg : g = f
  · subst hg
    simp only [if_true, true_and, getD_set _ a x ha, ← marked_eq_getD_marksOf]
  · simp [hg]

/-- the repaired `visited` on a valid key: either already seen (state unchanged) or newly marked
    (strictly fewer unvisited keys) -/
theorem visited_spec (p : Prog) (vs : Visits) (f a : Nat) (hw : WFV p vs) (hf : f < p.length)
    (ha : a < nres p f) :
    ∃ seen vs', visited true vs f a (nres p f) = (seen, vs') ∧
      WFV p vs' ∧ Mono vs vs' ∧ (seen = false → unv p vs' < unv p vs) := by
  have hlen := length_marksOf hw f
  have ha' : a < (marksOf vs f (nres p f)).length := hlen.symm ▸ ha
  rw [visited_true]
  by_cases hs : marked vs f a = true
  · exact ⟨true, vs, if_pos hs, hw, Mono.refl vs, nofun⟩
  · have hmono : Mono vs (setMark vs f ((marksOf vs f (nres p f)).set a true)) := by
      intro g x hm
      rw [marked_setMark_set ha', hm, ite_self]
    refine ⟨false, _, if_neg hs, wfv_setMark hw (by rw [List.length_set, hlen]), hmono, fun _ => ?_⟩
    apply unv_strict hmono (mem_keys hf ha) (by simpa using hs)
    rw [marked_setMark_set ha', if_pos ⟨rfl, rfl⟩]

/-- what a recursive descent must guarantee on states with at most `B` unvisited keys -/
def RecOK (p : Prog) (rec : Rec) (B : Nat) : Prop :=
  ∀ vs g a, WFV p vs → g < p.length → a < nres p g → unv p vs ≤ B →
    ∃ out vs', rec vs g a = some (out, vs') ∧ WFV p vs' ∧ Mono vs vs'

/-- an outcome of a producer started in `vs`: it returns, keeps the table well formed and only adds marks -/
def Ok (p : Prog) (vs : Visits) (o : Option (List Res × Visits)) : Prop :=
  ∃ out vs', o = some (out, vs') ∧ WFV p vs' ∧ Mono vs vs'

theorem Ok.pure {p : Prog} {vs : Visits} {out : List Res} (hw : WFV p vs) : Ok p vs (some (out, vs)) :=
  ⟨out, vs, rfl, hw, Mono.refl vs⟩

theorem Ok.of_mono {p : Prog} {vs vs' : Visits} {o : Option (List Res × Visits)} (hm : Mono vs vs') :
    Ok p vs' o → Ok p vs o
  | ⟨out, vs'', e, hw, hm'⟩ => ⟨out, vs'', e, hw, hm.trans hm'⟩

theorem callAt_ok {p : Prog} {rec : Rec} {B : Nat} (hr : RecOK p rec B) {vs : Visits} {g a : Nat}
    (hw : WFV p vs) (hb : unv p vs ≤ B) : Ok p vs (callAt p rec vs g a) := by
  -- branch 3 of `callAt`: the result type is followed into the callee
  fun_cases callAt p rec vs g a with
  | case1 | case2 | case4 => exact .pure hw
  | case3 fn hg ty ha =>
    obtain ⟨hgl, _⟩ := List.getElem?_eq_some_iff.mp hg
    obtain ⟨hal, _⟩ := List.getElem?_eq_some_iff.mp ha
    exact hr vs g a hw hgl (nres_eq hg ▸ hal) hb

theorem exprsAt_ok (p : Prog) (rec : Rec) (B : Nat) (hr : RecOK p rec B) (vs : Visits)
    (rhs : List Expr) (n a : Nat) (hw : WFV p vs) (hb : unv p vs ≤ B) :
    ∃ out vs', exprsAt p rec vs rhs n a = some (out, vs') ∧ WFV p vs' ∧ Mono vs vs' := by
  -- branches 1 and 4 of `exprsAt` are the calls (one call forwarding all results; the expression at position `a`)
  fun_cases exprsAt p rec vs rhs n a with
  | case1 | case4 => exact callAt_ok hr hw hb
  | case2 | case3 | case5 | case6 => exact Ok.pure hw

theorem overReturns_ok {p : Prog} {rec : Rec} {B : Nat} (hr : RecOK p rec B) {n a : Nat}
    {rs : List (List Expr)} {vs : Visits} {acc : List Res} (hw : WFV p vs) (hb : unv p vs ≤ B) :
    Ok p vs (overReturns p rec n a rs vs acc) := by
  induction rs generalizing vs acc with
  | nil => exact .pure hw
  | cons r rs ih =>
    obtain ⟨out, vs₁, h₁, hw₁, hm₁⟩ := exprsAt_ok p rec B hr vs r n a hw hb
    simp only [overReturns, h₁]
    exact (ih hw₁ (Nat.le_trans (unv_mono p hm₁) hb)).of_mono hm₁

/-- one descent: a key already seen returns at once; otherwise `body` runs on a state with fewer
    unvisited keys.  With `B = 0` every key is seen and nothing is asked of `body`. -/
theorem descend_ok {p : Prog} {vs : Visits} {f a n B : Nat} {body : Visits → Option (List Res × Visits)}
    (hw : WFV p vs) (hf : f < p.length) (hn : nres p f = n) (ha : a < n) (hb : unv p vs ≤ B)
    (hbody : ∀ vs', WFV p vs' → unv p vs' < B → Ok p vs' (body vs')) :
    Ok p vs (match visited true vs f a n with
      | (seen, vs') => if seen then some ([], vs') else body vs') := by
  subst hn
  obtain ⟨seen, vs', hv, hw', hm', hs'⟩ := visited_spec p vs f a hw hf ha
  rw [hv]
  cases seen with
  | true => exact ⟨[], vs', rfl, hw', hm'⟩
  | false => exact (hbody vs' hw' (Nat.lt_of_lt_of_le (hs' rfl) hb)).of_mono hm'

theorem funcAt_ok {p : Prog} {fuel B g a : Nat} {vs : Visits} (hw : WFV p vs) (hg : g < p.length)
    (ha : a < nres p g) (hb : unv p vs ≤ B)
    (hbody : ∀ vs', WFV p vs' → unv p vs' < B →
      Ok p vs' (overReturns p (funcAt p true fuel) p[g].results.length a p[g].returns vs' [])) :
    Ok p vs (funcAt p true (fuel + 1) vs g a) := by
  have hfn : p[g]? = some p[g] := List.getElem?_eq_getElem hg
  rw [funcAt, hfn]
  apply descend_ok hw hg (nres_eq hfn) (nres_eq hfn ▸ ha) hb hbody

/-- C14 `resolve_terminates` (repaired code): with more fuel than unvisited keys the resolver
    returns — for every program (any recursion structure), every visits state, every key. -/
theorem funcAt_terminates (p : Prog) :
    ∀ fuel, RecOK p (funcAt p true (fuel + 1)) fuel := by
  intro fuel
  induction fuel with
  | zero =>
    intro vs g a hw hg ha hb
    exact funcAt_ok hw hg ha hb fun _ _ h => absurd h (Nat.not_lt_zero _)
  | succ k ih =>
    intro vs g a hw hg ha hb
    exact funcAt_ok hw hg ha hb fun vs' hw' h =>
      overReturns_ok ih hw' (Nat.le_of_lt_succ h)

/-- the loop of `resultsFromAst` over the result positions, for any descent `step` and fallback `dflt` -/
def collectAux (step : Visits → Nat → Option (List Res × Visits)) (dflt : Nat → Res) :
    List Nat → Visits → List (List Res) → Option (List (List Res))
  | [], _, acc => some acc
  | a :: rest, vs, acc =>
    match step vs a with
    | none => none
    | some (out, vs') => collectAux step dflt rest vs' (acc ++ [if out.isEmpty then [dflt a] else out])

theorem resultsOfAux_eq (p : Prog) (fixed : Bool) (fuel f : Nat) (fn : Func) (as : List Nat)
    (vs : Visits) (acc : List (List Res)) :
    resultsOfAux p fixed fuel f fn as vs acc =
      collectAux (fun vs a => funcAt p fixed fuel vs f a)
        (fun a => .ty ((fn.results[a]?.map (·.name)).getD [])) as vs acc := by
  fun_induction resultsOfAux p fixed fuel f fn as vs acc with
  | case1 => rfl
  | case2 _ _ _ _ h => rw [collectAux, h]
  | case3 _ _ _ _ _ _ h _ ih =>
    rw [collectAux, h]
    exact ih

theorem collectAux_shape (p : Prog) {step : Visits → Nat → Option (List Res × Visits)} {dflt : Nat → Res}
    (as : List Nat) (hstep : ∀ a ∈ as, ∀ vs, WFV p vs → Ok p vs (step vs a)) (vs : Visits) (acc : List (List Res))
    (hw : WFV p vs) :
    ∃ rs, collectAux step dflt as vs acc = some (acc ++ rs) ∧ rs.length = as.length ∧ ∀ r ∈ rs, r ≠ [] := by
  induction as generalizing vs acc with
  | nil => exact ⟨[], by rw [collectAux, List.append_nil], rfl, nofun⟩
  | cons a as ih =>
    obtain ⟨ha, hrest⟩ := List.forall_mem_cons.mp hstep
    obtain ⟨out, vs', h₁, hw', _⟩ := ha vs hw
    obtain ⟨rs, h₂, hlen, hne⟩ := ih hrest vs' _ hw'
    refine ⟨(if out.isEmpty then [dflt a] else out) :: rs, ?_, congrArg (· + 1) hlen,
      List.forall_mem_cons.mpr ⟨?_, hne⟩⟩
    · rw [collectAux, h₁]
      exact h₂.trans (by rw [List.append_assoc]; rfl)
    · cases out <;> simp

/-- C14 `shape` (repaired code): for every function of every program, `ResultsOf` returns, with
    exactly one non-empty list of alternatives per declared result. -/
theorem resultsOf_shape (p : Prog) (f : Nat) (hf : f < p.length) :
    ∃ rs, resultsOf p true ((keys p).length + 1) f = some rs ∧
      rs.length = (p[f]).results.length ∧ ∀ r ∈ rs, r ≠ [] := by
  have hfn : p[f]? = some p[f] := List.getElem?_eq_getElem hf
  obtain ⟨rs, h, hlen, hne⟩ := collectAux_shape p (List.range (p[f]).results.length)
    (fun a ha vs hw => funcAt_terminates p _ vs f a hw hf (nres_eq hfn ▸ List.mem_range.mp ha) (unv_le_keys p vs))
    [] [] nofun
  rw [resultsOf, hfn]
  exact ⟨rs, (resultsOfAux_eq ..).trans h, hlen.trans List.length_range, hne⟩

#print axioms funcAt_terminates
#print axioms resultsOf_shape
end Gengo.Resolver

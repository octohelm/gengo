import Gengo.Props.C03a
/-!
C03 `imports_exact` over a model of the writer that is defined here: a rendered body is a list of tokens, and a
reference is rendered by `renderRef`, which is what `rawNamer.Name` does with the tracker for a reference without type
arguments (`Namer.nameOf` of `Model/Namer` is the whole function, type arguments included; `Props/C15b`, `C15c` are
about its `rewrite`).
-/
namespace Gengo.Tracker

/-- what ends up in the rendered body: plain text, or a qualified reference
    (`path` is ghost information: which package the reference was rendered for) -/
inductive Tok
  | text (s : Str)
  | qual (path localName ident : Str)

/-- a reference handed to the namer: to the file's own package, or to another one -/
inductive Ref
  | own (ident : Str)
  | foreign (path ident : Str)

structure WState where
  out : List Tok
  tracker : Tracker

/-- `rawNamer.Name`: own package unqualified; otherwise register, then qualify with the name the
    tracker now holds -/
def renderRef (c : Cfg) (w : WState) : Ref → WState
  | .own id => { w with out := w.out ++ [.text id] }
  | .foreign p id =>
    let t' := add c w.tracker p
    { out := w.out ++ [.qual p (localNameOf t' p) id], tracker := t' }

def renderAll (c : Cfg) (rs : List Ref) : WState := rs.foldl (renderRef c) ⟨[], empty⟩

def foreignPaths : List Ref → List Str
  | [] => []
  | .own _ :: rs => foreignPaths rs
  | .foreign p _ :: rs => p :: foreignPaths rs

/-- invariant of the writer: every qualified token carries the name its package is bound to, and
    only rendered foreign packages are bound -/
structure WInv (c : Cfg) (seen : List Str) (w : WState) : Prop where
  toks : ∀ p n id, Tok.qual p n id ∈ w.out → w.tracker.p2n.lookup p = some n
  only : ∀ p n, w.tracker.p2n.lookup p = some n → p ∈ seen
  all : ∀ p ∈ seen, (w.tracker.p2n.lookup p).isSome = true

theorem add_only (c : Cfg) (t : Tracker) (q p n : Str) (h : (add c t q).p2n.lookup p = some n) :
    p = q ∨ t.p2n.lookup p = some n :=
  (lookup_add h).symm.imp_left (·.1)

theorem lookup_localNameOf {t : Tracker} {p : Str} (h : (t.p2n.lookup p).isSome = true) :
    t.p2n.lookup p = some (localNameOf t p) := by
  obtain ⟨n, hn⟩ := Option.isSome_iff_exists.mp h
  rw [localNameOf, hn]; rfl

theorem isSome_add (c : Cfg) (hc : FallbackOK c) (t : Tracker) (q p : Str) :
    ((add c t q).p2n.lookup p).isSome = true ↔ (t.p2n.lookup p).isSome = true ∨ p = q := by
  constructor
  · intro h
    obtain ⟨n, hn⟩ := Option.isSome_iff_exists.mp h
    exact (add_only c t q p n hn).symm.imp_left Option.isSome_of_eq_some
  · rintro (h | rfl)
    · obtain ⟨n, hn⟩ := Option.isSome_iff_exists.mp h
      exact Option.isSome_of_eq_some (add_stable c t p q n hn)
    · exact add_binds c hc t p

theorem isSome_adds (c : Cfg) (hc : FallbackOK c) (p : Str) : ∀ (ps : List Str) (t : Tracker),
    ((ps.foldl (add c) t).p2n.lookup p).isSome = true ↔ (t.p2n.lookup p).isSome = true ∨ p ∈ ps
  | [], t => (or_iff_left List.not_mem_nil).symm
  | q :: ps, t => by rw [List.foldl_cons, isSome_adds c hc p ps, isSome_add c hc, List.mem_cons, or_assoc]

theorem render_tracker (c : Cfg) : ∀ (rs : List Ref) (w : WState),
    (rs.foldl (renderRef c) w).tracker = (foreignPaths rs).foldl (add c) w.tracker
  | [], _ => rfl
  | .own _ :: rs, _ => render_tracker c rs _
  | .foreign _ _ :: rs, _ => render_tracker c rs _

/-- C03 `imports_exact` (repaired tracker): after rendering any sequence of references, the
    import table binds exactly the packages that were referenced from other packages — none
    missing, none unused —, every qualified reference in the body uses the name its package is
    bound to at the end, and references to the file's own package are unqualified. -/
theorem imports_exact (c : Cfg) (hc : FallbackOK c) (rs : List Ref) :
    WInv c (foreignPaths rs) (renderAll c rs) := by
  have hb (p : Str) := (isSome_adds c hc p (foreignPaths rs) empty).trans (or_iff_right nofun)
  rw [← render_tracker c rs ⟨[], empty⟩] at hb
  refine ⟨?_, fun p n hl => (hb p).mp (Option.isSome_of_eq_some hl), fun p hp => (hb p).mpr hp⟩
  -- a step keeps the tokens written so far right (`add_stable`) and qualifies the new one with the name just bound
  refine List.foldlRecOn (motive := fun w : WState => ∀ p n id, Tok.qual p n id ∈ w.out → w.tracker.p2n.lookup p = some n)
    rs _ (fun _ _ _ h => nomatch h) fun w h r _ p n id hm => ?_
  cases r with
  | own _ =>
    rcases List.mem_append.mp hm with hm | hm
    · exact h p n id hm
    · cases List.mem_singleton.mp hm
  | foreign q _ =>
    rcases List.mem_append.mp hm with hm | hm
    · exact add_stable c w.tracker p q n (h p n id hm)
    · cases List.mem_singleton.mp hm
      exact lookup_localNameOf (add_binds c hc _ _)

#print axioms imports_exact
end Gengo.Tracker

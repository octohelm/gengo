import Gengo.Model.DeepCopy
/-!
C17, the generator's decisions (`Model/DeepCopy`): the four defects of F14 on the pinned flags and none of them on the
repaired ones (examples); the repaired choice of statement does not depend on earlier output (`fieldStmt_run_stable`).
-/
namespace Gengo.DeepCopy

/-- `type NM map[string]int; type Out struct{ N NM }`, both enabled -/
def pkgNamedMap : Pkg := [⟨.map, [], true, false⟩, ⟨.struct, [.localNamed 0 false], true, false⟩]
/-- pinned code (F14): first run does not compile, later runs emit different code -/
example : compiles false false pkgNamedMap = false ∧ compiles false true pkgNamedMap = true := by decide
example : fieldStmt false false pkgNamedMap (.localNamed 0 false) ≠ fieldStmt false true pkgNamedMap (.localNamed 0 false) := by decide
/-- repaired code: compiles, and the same statement on every run -/
example : compiles true false pkgNamedMap = true ∧
    fieldStmt true false pkgNamedMap (.localNamed 0 false) = fieldStmt true true pkgNamedMap (.localNamed 0 false) := by decide

/-- untagged same-package dependency: `type Dep struct{…}` (not enabled) used by an enabled struct -/
def pkgUntagged : Pkg := [⟨.struct, [.slice], false, false⟩, ⟨.struct, [.localNamed 0 false], true, false⟩]
example : compiles false false pkgUntagged = false ∧ compiles true false pkgUntagged = true := by decide

/-- field of an instantiated generic type: `type Box[T any] struct{…}; type Use struct{ L Box[Item] }` -/
def pkgInst : Pkg := [⟨.struct, [.plain], true, true⟩, ⟨.struct, [.localNamed 0 true], true, false⟩]
example : (emitAll false pkgInst) = [0, 1, 0] ∧ (emitAll true pkgInst) = [0, 1] := by decide
example : compiles false false pkgInst = false ∧ compiles true false pkgInst = true := by decide

/-- an `error` field -/
example : fieldStmt false false [] .errorT = .panic ∧ fieldStmt true false [] .errorT = .assign := by decide

/-- the repaired `PtrResultOrParam` reads the flag of a same-package type off its underlying type -/
theorem ptrFlag_fixed (prev : Bool) (p : Pkg) (id : Nat) : ptrFlag true prev p id = !isMap p id := by
  unfold ptrFlag isMap
  cases p[id]? <;> simp

/-- C17 `run_stable` (repaired code): the statement chosen for a field does not depend on whether
    earlier output is present — for every package and every field type. -/
theorem fieldStmt_run_stable (p : Pkg) (f : FT) : fieldStmt true false p f = fieldStmt true true p f := by
  cases f <;> simp only [fieldStmt, ptrFlag_fixed]

end Gengo.DeepCopy

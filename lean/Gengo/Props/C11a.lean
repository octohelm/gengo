import Gengo.Model.TypeLit
/-!
C11 on `Model/TypeLit`: the type a printed type expression denotes in the generated file is the type it was rendered
from (`denote_typeLit`: repaired printer, every type of the domain `InDom`, any depth).  The pinned printer's
`[]error` ↦ `[]any` (F10) is the example in front.
-/
namespace Gengo.TypeLit

def env0 : Env := { self := "ex/self".toList, localName := fun p => if p = "time".toList then "time".toList else "x".toList }
def sc0 : Scope := { self := "ex/self".toList, imports := [("time".toList, "time".toList)] }

/-- pinned code (F10): `[]error` is printed as `[]any`, which denotes a different type -/
example : denote sc0 (typeLit false env0 (.slice .error)) = some (.slice .any) := by
  have : sAny ≠ sError := by decide
  simp [typeLit, denote, this]
/-- repaired code -/
example : denote sc0 (typeLit true env0 (.slice .error)) = some (.slice .error) := by
  simp [typeLit, denote]

/-- names a defined type may carry in the domain: not predeclared, not `error`/`any` -/
def okName (n : Str) : Prop := n ≠ sError ∧ n ≠ sAny ∧ n ∉ predeclared

mutual
  /-- domain of C11 relative to a rendering environment -/
  def InDom (env : Env) (sc : Scope) : GoType → Prop
    | .basic n => n ∈ predeclared
    | .error => True
    | .any => True
    | .named pkg name args =>
      okName name ∧ (pkg ≠ env.self → sc.imports.lookup (env.localName pkg) = some pkg) ∧ InDoms env sc args
    | .ptr e => InDom env sc e
    | .slice e => InDom env sc e
    | .array _ e => InDom env sc e
    | .map k v => InDom env sc k ∧ InDom env sc v
    | .chan e => InDom env sc e
    | .struct fs => InDomFields env sc fs
  def InDoms (env : Env) (sc : Scope) : List GoType → Prop
    | [] => True
    | t :: ts => InDom env sc t ∧ InDoms env sc ts
  def InDomFields (env : Env) (sc : Scope) : List Field → Prop
    | [] => True
    | .mk name emb ty _ :: fs => (emb = true → name = []) ∧ InDom env sc ty ∧ InDomFields env sc fs
end

theorem predeclared_not_special (n : Str) (h : n ∈ predeclared) : n ≠ sError ∧ n ≠ sAny := by
  obtain ⟨s, hs, rfl⟩ := List.mem_map.mp h
  -- `sError` and `sAny` are `"error".toList` and `"any".toList`, and `toList` is injective: compare the strings
  have e1 : sError = "error".toList := String.toList_ofList.symm
  have e2 : sAny = "any".toList := String.toList_ofList.symm
  rw [e1, e2, Ne, Ne, String.toList_inj, String.toList_inj]
  constructor <;> (rintro rfl; simp at hs)

/-- the head of a defined type — a bare identifier in the package rendered into, a qualified one elsewhere —
    denotes the type without arguments -/
theorem denote_head (env : Env) (sc : Scope) (hself : sc.self = env.self) {pkg name : Str} (hn : okName name)
    (himp : pkg ≠ env.self → sc.imports.lookup (env.localName pkg) = some pkg) :
    denote sc (if pkg = env.self then TExpr.ident name else TExpr.qual (env.localName pkg) name) =
      some (.named pkg name []) := by
  obtain ⟨h1, h2, h3⟩ := hn
  split
  · next hp => simp [denote, h1, h2, h3, hself, hp]
  · next hp => simp [denote, himp hp]

mutual
  /-- C11 `denote_typeLit` (repaired code): the printed type expression denotes the type it was
      rendered from, for every type of the grammar at any depth. -/
  theorem denote_typeLit (env : Env) (sc : Scope) (hself : sc.self = env.self) :
      (t : GoType) → InDom env sc t → denote sc (typeLit true env t) = some t
    | .basic n, h => by
      have ⟨h1, h2⟩ := predeclared_not_special n h
      simp only [InDom] at h
      simp [typeLit, denote, h1, h2, h]
    | .error, _ => by simp [typeLit, denote]
    | .any, _ => by
      have : sAny ≠ sError := by decide
      simp [typeLit, denote, this]
    | .named pkg name [], h => by
      simp only [typeLit]
      exact denote_head env sc hself h.1 h.2.1
    | .named pkg name (a :: as), h => by
      simp [typeLit, denote, denote_head env sc hself h.1 h.2.1, denotes_typeLits env sc hself (a :: as) h.2.2]
    | .ptr e, h | .slice e, h | .array _ e, h | .chan e, h => by
      simp [typeLit, denote, denote_typeLit env sc hself e h]
    | .map k v, h => by
      simp [typeLit, denote, denote_typeLit env sc hself k h.1, denote_typeLit env sc hself v h.2]
    | .struct fs, h => by simp [typeLit, denote, denoteFields_fieldLits env sc hself fs h]
  theorem denotes_typeLits (env : Env) (sc : Scope) (hself : sc.self = env.self) :
      (ts : List GoType) → InDoms env sc ts → denotes sc (typeLits true env ts) = some ts
    | [], _ => by simp [typeLits, denotes]
    | t :: ts, h => by
      simp [typeLits, denotes, denote_typeLit env sc hself t h.1, denotes_typeLits env sc hself ts h.2]
  theorem denoteFields_fieldLits (env : Env) (sc : Scope) (hself : sc.self = env.self) :
      (fs : List Field) → InDomFields env sc fs → denoteFields sc (fieldLits true env fs) = some fs
    | [], _ => by simp [fieldLits, denoteFields]
    | .mk name emb ty tag :: fs, h => by
      obtain ⟨hemb, hty, hfs⟩ := h
      simp only [fieldLits, denoteFields, denote_typeLit env sc hself ty hty,
        denoteFields_fieldLits env sc hself fs hfs]
      cases emb with
      | true => simp [hemb rfl]
      | false => simp
end

#print axioms denote_typeLit
end Gengo.TypeLit

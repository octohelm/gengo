import Gengo.Props.TrC01
import Gengo.Props.C01a
/-!
A property clause stated of the code as it stands: the theorem here is a clause of C01 and C04 about a definition of
`Gengo.Code` — regenerated from /repo's Go source on every run — obtained from the clause proved of the hand-written
model through the equivalence theorem of `Props/Tr*.lean`.
-/
namespace Gengo.TrCode
open Gengo Gengo.Go Gengo.Code

/-- C01 / C04: what the translated `writeImports` writes does not depend on the order in which the import table
    presents its bindings -/
theorem code_writeImports_perm (w : Str) {m₁ m₂ : List (Str × Str)} (h : m₁.Perm m₂) (hd : (m₁.map (·.1)).Nodup) :
    Code.writeImports w m₁ = Code.writeImports w m₂ := by
  rw [TrC01.writeImports_eq w m₁ hd, TrC01.writeImports_eq w m₂ ((h.map (·.1)).nodup_iff.mp hd),
    Assemble.importBlock_perm h (Assoc.eq_of_key_eq hd)]

end Gengo.TrCode

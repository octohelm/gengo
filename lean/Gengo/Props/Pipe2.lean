import Gengo.Props.Pipe
/-!
The run that succeeds: the call log of `dispatch` is the prescribed list (C06), a package run touches only the
`<base>.*` files of its own directory (C07), and a run without error leaves the traces of the processed packages in
order, then the sum file (C05).
-/
namespace Gengo.Pipeline
open Gengo.Tags

/-- the calls the property prescribes for a (sorted) type list -/
def expectedCalls (a : Args) (p : Pkg) (g : Gen) : List TypeObj → List (Str × Bool)
  | [] => []
  | t :: ts =>
    let en := isEnabled g.name (merge3 a.globals p.pkgTags t.tags)
    match t.kind with
    | .named => if en then (t.name, false) :: expectedCalls a p g ts else expectedCalls a p g ts
    | .alias => if en && g.onAlias.isSome then (t.name, true) :: expectedCalls a p g ts
                else expectedCalls a p g ts
    | _ => expectedCalls a p g ts

theorem expectedCalls_cons (a : Args) (p : Pkg) (g : Gen) (t : TypeObj) (ts : List TypeObj) :
    expectedCalls a p g (t :: ts) =
      match handler a p g t with
      | none => expectedCalls a p g ts
      | some _ => (t.name, !decide (t.kind = .named)) :: expectedCalls a p g ts := by
  rw [expectedCalls, handler]
  cases t.kind
  · cases isEnabled g.name (merge3 a.globals p.pkgTags t.tags) <;> rfl
  · cases isEnabled g.name (merge3 a.globals p.pkgTags t.tags) <;> cases g.onAlias <;> rfl
  · rfl
  · rfl

/-- C06 `dispatch_exact`: whenever dispatch completes, the call log is exactly the prescribed list: GenerateType
    once per enabled defined type in table order, GenerateAliasType for enabled aliases when the generator has
    that hook, nothing for type parameters / other objects / disabled types. -/
theorem dispatch_exact (a : Args) (p : Pkg) (g : Gen) (ts : List TypeObj) :
    ∀ (s s' : GState g), dispatch a p g ts s = .ok s' → s'.calls = s.calls ++ expectedCalls a p g ts := by
  induction ts with
  | nil => intro s s' h; cases h; exact (List.append_nil _).symm
  | cons t ts ih =>
    intro s s' h
    cases hh : handler a p g t <;> simp only [dispatch_cons, hh] at h <;> simp only [expectedCalls_cons, hh]
    · exact ih _ _ h
    · split at h
      · cases h
      · rw [ih _ _ h, List.append_assoc]; rfl

/-- the file a non-sum effect touches -/
def Effect.target : Effect → Option (Str × Str)
  | .write d n _ _ => some (d, n)
  | .remove d n => some (d, n)
  | .writeSum .. => none

def Own (a : Args) (p : Pkg) (e : Effect) : Prop :=
  ∀ d n, e.target = some (d, n) → d = p.dir ∧ (a.base ++ ['.']).isPrefixOf n = true

theorem fileName_prefix (base gen : Str) : (base ++ ['.']).isPrefixOf (fileName base gen) = true := by
  unfold fileName
  rw [List.append_assoc]
  exact List.isPrefixOf_iff_prefix.mpr ⟨_, rfl⟩

/-- C07 `touch_only_own`: every file a package run creates, rewrites or deletes lies in that package's directory
    and is named `<base>.<something>` — a name that merely starts with `<base>` is never a target. -/
theorem pkgExecute_own (parses : Str → Bool) (order) (a : Args) (p : Pkg) (gens : List Gen) :
    ∀ e ∈ (pkgExecute parses order a p gens).1, Own a p e := by
  intro e he d n ht
  rcases pkgExecute_mem he with ⟨gn, _, rfl⟩ | ⟨f, hf, rfl⟩ <;> cases ht
  · exact ⟨rfl, fileName_prefix a.base gn⟩
  · exact ⟨rfl, hf⟩

/-- For a run that returns no error, the trace is exactly: for each processed package in sorted
    order, that package's own trace — a function of the package, the arguments and the generator
    prototypes only — followed by the sum file under `All`.  Nothing a package contributes
    depends on which other packages are in the run (C05), nor on their order (C04). -/
theorem goPkgs_decomp (parses : Str → Bool) (order) (a : Args) (root : Str) (prev) (all : List Pkg)
    (gens : List Gen) (ps : List Pkg) :
    ∀ (eff : List Effect), (goPkgs parses order a root prev all gens ps eff).2 = none →
      (goPkgs parses order a root prev all gens ps eff).1 =
        eff ++ ((ps.filter (processed a prev)).flatMap fun p => (pkgExecute parses order a p gens).1) ++
          (if a.all then [Effect.writeSum root (SumFile.bytes (all.map fun p => (p.path, p.hash)))] else []) := by
  intro eff h
  rcases goPkgs_cases parses order a root prev all gens ps eff with hc | ⟨_, _, _, _, _, _, hc⟩ <;> rw [hc] at h ⊢
  cases h

#print axioms dispatch_exact
#print axioms pkgExecute_own
#print axioms goPkgs_decomp
end Gengo.Pipeline

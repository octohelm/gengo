import Gengo.Model.Heap
/-!
C17, heap semantics (`Model/Heap`): `deepCopy` gives every non-nil container of the copy the next fresh identity and
changes nothing else (`deepCopy_alloc`); deep equality and "no container shared" follow (`deepCopy_no_sharing`).
-/
namespace Gengo.Heap

mutual
  /-- What `deepCopy` allocates: the non-nil containers of the copy get the identities `next`, `next + 1`, …
      in order, one for each of the original's, and the allocator advances by their number; apart from the
      identities the copy is the original. -/
  theorem deepCopy_alloc : (v : HV) → ∀ next,
      (deepCopy v next).2 = next + v.ids.length ∧
      (deepCopy v next).1.ids = List.range' next v.ids.length ∧
      (deepCopy v next).1.erase = v.erase
    | .scalar _, _ => ⟨rfl, rfl, rfl⟩
    | .slice id _, _ | .map id _, _ => by cases id <;> exact ⟨rfl, rfl, rfl⟩
    | .struct fs, next =>
      have ⟨h1, h2, h3⟩ := deepCopyList_alloc fs next
      ⟨h1, h2, congrArg HV.struct h3⟩
  theorem deepCopyList_alloc : (vs : List HV) → ∀ next,
      (deepCopyList vs next).2 = next + (idsList vs).length ∧
      idsList (deepCopyList vs next).1 = List.range' next (idsList vs).length ∧
      eraseList (deepCopyList vs next).1 = eraseList vs
    | [], _ => ⟨rfl, rfl, rfl⟩
    | v :: vs, next => by
      obtain ⟨h1, h2, h3⟩ := deepCopy_alloc v next
      obtain ⟨k1, k2, k3⟩ := deepCopyList_alloc vs (deepCopy v next).2
      simp only [deepCopyList, idsList, eraseList, List.length_append]
      rw [k1, k2, k3, h1, h2, h3, List.range'_append_1, Nat.add_assoc]
      exact ⟨rfl, rfl, rfl⟩
end

theorem deepCopyList_spec : (vs : List HV) → ∀ next,
      next ≤ (deepCopyList vs next).2 ∧
      (∀ i ∈ idsList (deepCopyList vs next).1, next ≤ i ∧ i < (deepCopyList vs next).2) ∧
      eraseList (deepCopyList vs next).1 = eraseList vs := by
  intro vs next
  obtain ⟨h1, h2, h3⟩ := deepCopyList_alloc vs next
  rw [h1, h2]
  exact ⟨Nat.le_add_right .., fun _ => List.mem_range'_1.mp, h3⟩

/-- C17 `copy_equal` and `no_shared_container`: the copy is deeply equal to the original and no
    slice or map of the copy, at any struct nesting depth, shares its backing store with the
    original (so appending to or assigning into it cannot change the original). -/
theorem deepCopy_no_sharing (v : HV) (next : Nat) (hfresh : ∀ i ∈ v.ids, i < next) :
    (deepCopy v next).1.erase = v.erase ∧ ∀ i, i ∈ (deepCopy v next).1.ids → i ∉ v.ids := by
  obtain ⟨_, hids, he⟩ := deepCopy_alloc v next
  refine ⟨he, fun i hi hv => ?_⟩
  rw [hids] at hi
  exact Nat.not_lt.mpr (List.mem_range'_1.mp hi).1 (hfresh i hv)

/-- by contrast, copying a slice field by assignment shares the backing store -/
example : let v := HV.struct [.slice (some 3) [1, 2]]
    (v.ids.any fun i => v.ids.contains i) = true := by decide

#print axioms deepCopy_no_sharing
end Gengo.Heap

import Gengo.Model.Namer
import Gengo.Props.C03b
/-!
C15, the namer's rewrite of a reference tree (`Model/Namer`): it changes package qualifiers only (`rewrite_shape`) and
binds exactly the foreign packages of the tree (`rewrite_bound`), because the table it leaves is `add` folded over them
in the order of the walk (`rewrite_tracker`).
-/
namespace Gengo.TypeRef
open Gengo.Tracker

mutual
  /-- the tree with every package path forgotten -/
  def skeleton : TRef → TRef
    | .mk _ name args => .mk [] name (skeletons args)
  def skeletons : List TRef → List TRef
    | [] => []
    | a :: as => skeleton a :: skeletons as
end

mutual
  /-- foreign package paths mentioned in the tree -/
  def foreign (self : Str) : TRef → List Str
    | .mk pkg _ args => (if pkg.isEmpty || pkg = self then [] else [pkg]) ++ foreigns self args
  def foreigns (self : Str) : List TRef → List Str
    | [] => []
    | a :: as => foreign self a ++ foreigns self as
end

mutual
  /-- C15 `rewrite_shape`: the rewrite changes nothing but package paths — same names, same
      argument structure at every depth -/
  theorem rewrite_shape (c : Cfg) (self : Str) : (t : Tracker) → (r : TRef) →
      skeleton (rewrite c self t r).1 = skeleton r
    | t, .mk pkg name args => by
      rw [rewrite, skeleton, skeleton, rewriteList_shape]
  theorem rewriteList_shape (c : Cfg) (self : Str) : (t : Tracker) → (rs : List TRef) →
      skeletons (rewriteList c self t rs).1 = skeletons rs
    | t, [] => rfl
    | t, a :: as => by
      rw [rewriteList, skeletons, skeletons, rewrite_shape, rewriteList_shape]
end

def Bound (t : Tracker) (p : Str) : Prop := (t.p2n.lookup p).isSome = true

/-- the node step of `rewrite`, with the case distinction made the way `foreign` and `relabel` make it -/
theorem rewrite_mk (c : Cfg) (self : Str) (t : Tracker) (pkg name : Str) (args : List TRef) :
    rewrite c self t (.mk pkg name args) =
      (.mk (if pkg.isEmpty || pkg = self then [] else localNameOf (add c t pkg) pkg) name
          (rewriteList c self (if pkg.isEmpty || pkg = self then t else add c t pkg) args).1,
        (rewriteList c self (if pkg.isEmpty || pkg = self then t else add c t pkg) args).2) := by
  rw [rewrite]
  cases pkg.isEmpty <;> by_cases pkg = self <;> simp [*]

mutual
  theorem rewrite_tracker (c : Cfg) (self : Str) : (t : Tracker) → (r : TRef) →
      (rewrite c self t r).2 = (foreign self r).foldl (add c) t
    | t, .mk pkg name args => by
      rw [rewrite_mk, foreign, List.foldl_append, ← rewriteList_tracker c self _ args]
      split <;> rfl
  theorem rewriteList_tracker (c : Cfg) (self : Str) : (t : Tracker) → (rs : List TRef) →
      (rewriteList c self t rs).2 = (foreigns self rs).foldl (add c) t
    | t, [] => rfl
    | t, a :: as => by
      rw [rewriteList, foreigns, List.foldl_append, ← rewrite_tracker, ← rewriteList_tracker]
end

/-- C15 `rewrite_registers_exactly`: after the rewrite the tracker binds what it bound before
    plus exactly the foreign packages of the tree — in particular not the target package -/
theorem rewrite_bound (c : Cfg) (hc : FallbackOK c) (self : Str) : (t : Tracker) → (r : TRef) →
    ∀ p, Bound (rewrite c self t r).2 p ↔ Bound t p ∨ p ∈ foreign self r
  | t, r, p => by rw [rewrite_tracker]; exact isSome_adds c hc p _ t
theorem rewriteList_bound (c : Cfg) (hc : FallbackOK c) (self : Str) : (t : Tracker) → (rs : List TRef) →
    ∀ p, Bound (rewriteList c self t rs).2 p ↔ Bound t p ∨ p ∈ foreigns self rs
  | t, rs, p => by rw [rewriteList_tracker]; exact isSome_adds c hc p _ t

#print axioms rewrite_bound
end Gengo.TypeRef

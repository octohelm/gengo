import Gengo.Model.Heap
import Gengo.Model.DeepCopy
import Gengo.Props.C17b
namespace Gengo.Heap

/-! ### What the emitted statements do, and that the repaired choice is the deep copy -/

/-- shape of the values of a field type of the C17 domain -/
inductive Shape where
  | scalar                      -- basic, string, defined scalar, `error`/interface, bare type parameter
  | slice                       -- slice of scalars
  | map                         -- map of scalars (plain, or a defined map type)
  | struct (fields : List Shape)  -- same-package struct by value

/-- meaning of one emitted statement on the field's value -/
inductive Sem where
  | assign                      -- `out.F = in.F`  (and `*out = *in` of a defined scalar)
  | realloc                     -- `make` + `copy` / `range`, or the defined map's `DeepCopy()`
  | into (fields : List Sem)    -- `in.F.DeepCopyInto(&out.F)` of a struct: its own field statements

mutual
  def exec : Sem → HV → Nat → HV × Nat
    | .assign, v, next => (v, next)                       -- shares whatever the value holds
    | .realloc, .slice (some _) es, next => (.slice (some next) es, next + 1)
    | .realloc, .map (some _) es, next => (.map (some next) es, next + 1)
    | .realloc, v, next => (v, next)                      -- nil stays nil
    | .into fs, .struct vs, next => let r := execList fs vs next; (.struct r.1, r.2)
    | .into _, v, next => (v, next)
  def execList : List Sem → List HV → Nat → List HV × Nat
    | f :: fs, v :: vs, next =>
      let r1 := exec f v next
      let r2 := execList fs vs r1.2
      (r1.1 :: r2.1, r2.2)
    | _, vs, next => (vs, next)
end

mutual
  /-- the repaired generator's choice, by shape (mirrors `fieldStmt true` / the per-kind templates) -/
  def choose : Shape → Sem
    | .scalar => .assign
    | .slice => .realloc
    | .map => .realloc
    | .struct fs => .into (chooseList fs)
  def chooseList : List Shape → List Sem
    | [] => []
    | s :: ss => choose s :: chooseList ss
end

mutual
  def HasShape : HV → Shape → Prop
    | .scalar _, .scalar => True
    | .slice _ _, .slice => True
    | .map _ _, .map => True
    | .struct vs, .struct ss => HasShapes vs ss
    | _, _ => False
  def HasShapes : List HV → List Shape → Prop
    | [], [] => True
    | v :: vs, s :: ss => HasShape v s ∧ HasShapes vs ss
    | _, _ => False
end

theorem chooseList_eq_map (ss : List Shape) : chooseList ss = ss.map choose := by
  induction ss with
  | nil => rfl
  | cons s ss ih => rw [chooseList, ih, List.map_cons]

mutual
  /-- the statements the repaired generator emits perform exactly the deep copy of `Model/Heap` -/
  theorem exec_choose : (v : HV) → (s : Shape) → HasShape v s → ∀ next, exec (choose s) v next = deepCopy v next
    | .scalar _, .scalar, _, _ => rfl
    | .slice id _, .slice, _, _ | .map id _, .map, _, _ => by cases id <;> rfl
    | .struct vs, .struct ss, h, next => by
      simp only [choose, exec, deepCopy, execList_choose vs ss h next]
    -- a value of another shape needs no clause, here and below: `HasShape v s` is `False` there
  theorem execList_choose : (vs : List HV) → (ss : List Shape) → HasShapes vs ss →
      ∀ next, execList (chooseList ss) vs next = deepCopyList vs next
    | [], [], _, _ => rfl
    | v :: vs, s :: ss, h, next => by
      simp only [chooseList, execList, deepCopyList, exec_choose v s h.1 next, execList_choose vs ss h.2]
end

/-- by contrast a slice copied by assignment keeps the backing store (the defect the property is
    about; what e.g. the `default:` branch does to a defined *slice* type, outside the domain) -/
example : (exec .assign (.slice (some 3) [1, 2]) 10).1.ids = [3] := by decide

/-- F26 (known finding): a bare type-parameter field is classified `Shape.scalar` — true of a field of `Box[int]`,
    false of a field of `Box[Item]` with `type Item struct{ Tags []int }`.  The statement chosen for it is the
    assignment whatever the instantiation, and on such a value the assignment keeps the backing store: the
    copy shares `Tags`.  `HasShape v s` in `exec_choose` is the hypothesis that excludes these instantiations
    (the value of a `.scalar` field must be a scalar), so the theorems of this file are about instantiations with
    scalar types only — the other ones are the finding, replayed on the real generator by corpus/C17/F26*.json. -/
theorem typeparam_field_assignment_shares :
    (exec (choose .scalar) (.struct [.slice (some 3) [1, 2]]) 10).1.ids = [3] ∧
    ¬ HasShape (.struct [.slice (some 3) [1, 2]]) .scalar :=
  ⟨rfl, fun h => h⟩

/-- a nil slice or map field stays nil -/
theorem copy_nil_fields (es : List Nat) (ms : List (Nat × Nat)) (next : Nat) :
    (deepCopy (.slice none es) next).1 = .slice none es ∧ (deepCopy (.map none ms) next).1 = .map none ms :=
  ⟨rfl, rfl⟩

#print axioms exec_choose

/-- the generated `func (in *T) DeepCopy() *T`: `nil` receiver ↦ `nil`, otherwise a new struct
    filled by `DeepCopyInto` -/
def deepCopyPtr : Option HV → Nat → Option HV
  | none, _ => none
  | some v, next => some (deepCopy v next).1

/-- C17 "DeepCopy of nil is nil" -/
theorem copy_nil (next : Nat) : deepCopyPtr none next = none := rfl

/-- and of a non-nil value: deeply equal, no container shared -/
theorem copy_some (v : HV) (next : Nat) (hfresh : ∀ i ∈ v.ids, i < next) :
    ∃ w, deepCopyPtr (some v) next = some w ∧ w.erase = v.erase ∧ ∀ i, i ∈ w.ids → i ∉ v.ids :=
  ⟨_, rfl, deepCopy_no_sharing v next hfresh⟩
end Gengo.Heap

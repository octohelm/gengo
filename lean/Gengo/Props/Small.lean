import Gengo.Model.Pipeline
import Gengo.Model.TypeRef
import Gengo.Props.Index
import Gengo.Props.Assoc
/-!
Three short clauses that need no induction of their own: the precedence of the three tag maps (C06), what a stale-file
candidate's name looks like (C07), and that `ParseRef` and `PkgImportPathAndExpose` cut a reference at the same dot (C15).
-/
namespace Gengo.Pipeline

/-- C06 `merge_precedence`: declaration tags over package tags over global tags, per key -/
theorem merge_precedence (g p d : TagMap) (k : Str) :
    (merge3 g p d).lookup k = (d.lookup k <|> p.lookup k <|> g.lookup k) := by
  unfold merge3
  rw [List.lookup_append, List.lookup_append, Assoc.lookup_filter (fun x => (d.lookup x).isNone),
    Assoc.lookup_filter (fun x => (d.lookup x).isNone && (p.lookup x).isNone)]
  cases d.lookup k <;> cases p.lookup k <;> rfl

/-- C07 `lookalike_safe`: a file name that merely starts with the base name, without the dot, is
    not a candidate for removal or rewriting -/
theorem lookalike_safe (base name : Str) (h : (base ++ ['.']).isPrefixOf name = true) :
    ∃ rest, name = base ++ '.' :: rest := by
  obtain ⟨t, ht⟩ := List.isPrefixOf_iff_prefix.mp h
  exact ⟨t, by rw [← ht]; simp⟩

end Gengo.Pipeline

namespace Gengo.TypeRef

theorem baseOf_prefix (s : Str) : ∃ rest, s = baseOf s ++ rest := by
  unfold baseOf
  split
  · split
    · exact ⟨_, (List.take_append_drop _ s).symm⟩
    · exact ⟨[], (List.append_nil s).symm⟩
  · exact ⟨[], (List.append_nil s).symm⟩

/-- `ParseRef` and `PkgImportPathAndExpose` both cut `baseOf s` at its last `.` -/
theorem cutIndex_eq (s : Str) :
    cutIndex s = match lastIndexOf? '.' (baseOf s) with
      | some i => if i > 0 then some i else none
      | none => none := rfl

theorem pathAndExpose_eq (s : Str) :
    pathAndExpose s = match lastIndexOf? '.' (baseOf s) with
      | some i => if i > 0 then ((baseOf s).take i, (baseOf s).drop (i + 1)) else ([], baseOf s)
      | none => ([], baseOf s) := rfl

/-- C15 `splitRef_agree`: whenever `ParseRef` accepts a string, `PkgImportPathAndExpose` reports
    the same package path, and its name is `ParseRef`'s name without the type-argument list -/
theorem splitRef_agree (s p n : Str) (h : parseRef s = some (p, n)) :
    (pathAndExpose s).1 = p ∧ ∃ rest, n = (pathAndExpose s).2 ++ rest := by
  rw [parseRef, cutIndex_eq] at h
  rw [pathAndExpose_eq]
  cases hl : lastIndexOf? '.' (baseOf s) with
  | none => rw [hl] at h; cases h
  | some i =>
    simp only [hl] at h ⊢
    by_cases hi : i > 0
    case neg => rw [if_neg hi] at h; cases h
    rw [if_pos hi] at h ⊢
    cases h
    have hlt := lastIndexOf?_lt '.' (baseOf s) i hl
    -- `s = b ++ rest` with `b = baseOf s`, and the cut lies inside `b`
    obtain ⟨rest, hs⟩ := baseOf_prefix s
    generalize baseOf s = b at hlt hs ⊢
    subst hs
    exact ⟨(List.take_append_of_le_length (by omega)).symm, rest, List.drop_append_of_le_length (by omega)⟩
end Gengo.TypeRef

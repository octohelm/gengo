import Gengo.Gen.Code.C03
import Gengo.Model.LocalName
import Gengo.Props.GoRtLemmas
/-!
C03, tie by translation: `Gengo.Code.localName`, regenerated by `go2lean` from `golangTrackerLocalName` in
pkg/namer/import_tracker.go on every run (the candidate local names the import tracker tries for a path: the whole of a
one-segment path, what follows a `domain` / `apis` segment for the first candidate, otherwise the last n segments with
`vN` segments taken along uncounted), hands `toLocalName` exactly the segments the hand-written model
`LocalName.localName` hands it.  `toLocalName` (camel-case splitting and lower-casing, covered by C19) is a parameter.
-/
namespace Gengo.TrC03
open Gengo Gengo.Go Gengo.Code Gengo.LocalName

/-- the `domain` / `apis` rule: what follows the segment `kw`, when that is neither the first nor the last segment -/
def shortcut (segs : List Str) (kw : String) : Option (List Str) :=
  match indexOfSeg kw.toList segs 0 with
  | some i => if i > 0 && i + 1 < segs.length then some (segs.drop (i + 1)) else none
  | none => none

/-- the segments the model passes to `toLocalName` -/
def parts (segs : List Str) (n : Nat) : List Str :=
  match segs with
  | [single] => [single]
  | _ =>
    if n = 1 then
      match shortcut segs "domain" with
      | some ps => ps
      | none =>
        match shortcut segs "apis" with
        | some ps => ps
        | none => takeBack segs.reverse n []
    else takeBack segs.reverse n []

/-- whatever is done with the segments chosen (`toLocalName` in the model, the parameter `toLN` in the translated
    code): on a path that is not a single segment `parts` chooses as both `localName`s do -/
theorem apply_parts {β : Type} (F : List Str → β) (segs : List Str) (n : Nat) (hs : ∀ x, segs ≠ [x]) :
    F (parts segs n) =
      if n = 1 then
        match shortcut segs "domain" with
        | some ps => F ps
        | none =>
          match shortcut segs "apis" with
          | some ps => F ps
          | none => F (takeBack segs.reverse n [])
      else F (takeBack segs.reverse n []) := by
  unfold parts
  split
  · exact absurd rfl (hs _)
  · split
    · cases shortcut segs "domain" with
      | some ps => rfl
      | none => cases shortcut segs "apis" <;> rfl
    · rfl

theorem model_parts (g : Bool) (segs : List Str) (n : Nat) :
    LocalName.localName g segs n = toLocalName g (parts segs n) := by
  unfold LocalName.localName
  split
  · rfl
  · rename_i hs
    exact (apply_parts (toLocalName g) segs n hs).symm

theorem parsesInt_eq (s : Str) : Go.parsesInt s = LocalName.parsesInt s := rfl

/-- the test for a `vN` segment, as it stands in both loops -/
theorem vN_test {α : Type} (seg : Str) (a b : M α) :
    (if Go.hasPrefix seg ['v'] = true then
        (Go.slice seg 1 (Go.len seg) >>= fun r => if Go.parsesInt r = true then a else b)
      else b) = if isVN seg = true then a else b := by
  cases seg with
  | nil => rfl
  | cons c cs =>
    rw [GoRtLemmas.slice_tail, pure_bind]
    by_cases h : c = 'v'
    · subst h
      rfl
    · simp [Go.hasPrefix, List.isPrefixOf, Ne.symm h, isVN, h]

/-- the backward loop (both copies the translation makes of it): with `count` segments counted so far it collects, in
    reverse, what the model's `takeBack` collects with `n - count` still to count -/
theorem loop1_back (toLN : List Str → M Str) (n : Nat) (rev : List Str) (acc : List Str) (count : Nat) :
    ∃ c', localName.loop1 toLN (n : Int) rev acc (count : Int) = pure ((takeBack rev (n - count) acc.reverse).reverse, c') := by
  induction rev generalizing acc count with
  | nil => exact ⟨count, by simp [localName.loop1, takeBack]⟩
  | cons seg rest ih =>
    rw [localName.loop1, vN_test, takeBack]
    by_cases hge : n ≤ count
    · exact ⟨count, by simp [hge, Nat.sub_eq_zero_of_le hge]⟩
    · have h0 : ¬ (n - count = 0) := by omega
      have hge' : ¬ ((count : Int) ≥ n) := by omega
      rw [decide_eq_false hge', if_neg Bool.false_ne_true, if_neg h0, show seg :: acc.reverse = (acc ++ [seg]).reverse by simp]
      cases isVN seg with
      | true => exact ih (acc ++ [seg]) count
      | false => exact ih (acc ++ [seg]) (count + 1)

theorem loop1_takeBack (toLN : List Str → M Str) (n : Nat) (rev : List Str) (acc : List Str) (count : Nat) (hc : count ≤ n) :
    ∃ c', localName.loop1 toLN (n : Int) rev acc (count : Int) = pure ((takeBack rev (n - count) acc.reverse).reverse, c') :=
  loop1_back toLN n rev acc count

/-- The Go function has one backward loop, behind `if n == 1 { … }`, whose inner `if`s can return.  The translation
    takes what follows such an `if` into both of its arms, and each copy of a loop becomes a definition of its own. -/
theorem loop2_eq_loop1 (toLN : List Str → M Str) (n : Int) (rev acc : List Str) (count : Int) :
    localName.loop2 toLN n rev acc count = localName.loop1 toLN n rev acc count := by
  induction rev generalizing acc count with
  | nil => rfl
  | cons seg rest ih => simp only [localName.loop1, localName.loop2, ih]

theorem loop2_takeBack (toLN : List Str → M Str) (n : Nat) (rev : List Str) (acc : List Str) (count : Nat) (hc : count ≤ n) :
    ∃ c', localName.loop2 toLN (n : Int) rev acc (count : Int) = pure ((takeBack rev (n - count) acc.reverse).reverse, c') := by
  rw [loop2_eq_loop1]
  exact loop1_back toLN n rev acc count

theorem sliceIndexAux_eq (v : Str) (l : List Str) (i : Nat) :
    Go.sliceIndexAux v l i = match indexOfSeg v l i with | some j => (j : Int) | none => -1 := by
  induction l generalizing i with
  | nil => rfl
  | cons x xs ih => by_cases h : x = v <;> simp [Go.sliceIndexAux, indexOfSeg, h, ih]

theorem indexOfSeg_lt (v : Str) (l : List Str) (i j : Nat) (h : indexOfSeg v l i = some j) : i ≤ j ∧ j < i + l.length := by
  fun_induction indexOfSeg v l i with
  | case1 => cases h
  | case2 xs i => cases h; simp
  | case3 x xs i hx ih =>
    have := ih h
    simp; omega

/-- the `domain` / `apis` test of the translated code is the model's `shortcut` -/
theorem shortcut_code (toLN : List Str → M Str) (segs : List Str) (kw : Str) (kws : String) (hk : kws.toList = kw) (K : M Str) :
    (if (decide (Go.sliceIndex segs kw > 0) && decide (Go.sliceIndex segs kw + 1 < Go.len segs)) = true then
        (Go.slice segs (Go.sliceIndex segs kw + 1) (Go.len segs) >>= fun t => toLN t)
      else K) = match shortcut segs kws with | some ps => toLN ps | none => K := by
  unfold shortcut Go.sliceIndex
  rw [sliceIndexAux_eq, hk]
  cases h : indexOfSeg kw segs 0 with
  | none => simp
  | some j =>
    have hj := indexOfSeg_lt kw segs 0 j h
    have hs := GoRtLemmas.slice_after segs j (by omega)
    have hc : (decide ((j : Int) > 0) && decide ((j : Int) + 1 < Go.len segs))
        = (decide (j > 0) && decide (j + 1 < segs.length)) := by
      simp only [Go.len, Int.ofNat_eq_natCast, gt_iff_lt, Int.natCast_pos, ← Int.natCast_succ, Int.ofNat_lt]
    simp only [hc, hs, pure_bind]
    split <;> rfl

/-- the translated `golangTrackerLocalName` hands `toLocalName` exactly the segments the model hands it -/
theorem localName_parts (toLN : List Str → M Str) (segs : List Str) (n : Nat) :
    Code.localName toLN segs (n : Int) = toLN (parts segs n) := by
  by_cases hs : ∃ x, segs = [x]
  · obtain ⟨x, rfl⟩ := hs
    rfl
  · have hlen : (Go.len segs == 1) = false := by
      have := mt List.length_eq_one_iff.mp hs
      exact beq_eq_false_iff_ne.mpr (show (segs.length : Int) ≠ 1 by omega)
    have hback : (localName.loop1 toLN (n : Int) segs.reverse [] 0 >>= fun r => toLN r.1.reverse)
        = toLN (takeBack segs.reverse n []) := by
      obtain ⟨c', h⟩ := loop1_back toLN n segs.reverse [] 0
      rw [show ((0 : Nat) : Int) = 0 from rfl, Nat.sub_zero] at h
      simp [h]
    rw [apply_parts toLN segs n fun x h => hs ⟨x, h⟩]
    unfold Code.localName
    simp only [hlen, Bool.false_eq_true, if_false, loop2_eq_loop1, hback]
    rw [shortcut_code toLN segs ['d','o','m','a','i','n'] "domain" (by simp only [String.reduceToList]),
      shortcut_code toLN segs ['a','p','i','s'] "apis" (by simp only [String.reduceToList])]
    simp only [beq_iff_eq, ← Int.natCast_one, Int.natCast_inj]

theorem localName_eq (toLN : List Str → M Str) (segs : List Str) (n : Nat) (hn : 1 ≤ n) :
    Code.localName toLN segs (n : Int) = toLN (parts segs n) :=
  localName_parts toLN segs n

/-- with the model: whatever `toLocalName` is, the code's candidate is the model's candidate -/
theorem localName_model (g : Bool) (toLN : List Str → M Str) (segs : List Str) (n : Nat) (hn : 1 ≤ n)
    (hLN : ∀ ps, toLN ps = match toLocalName g ps with | some r => pure r | none => throw .panic) :
    Code.localName toLN segs (n : Int) = match LocalName.localName g segs n with | some r => pure r | none => throw .panic := by
  rw [localName_parts, model_parts, hLN]

example : parts ["k8s.io".toList, "api".toList, "core".toList, "v1".toList] 1 = ["core".toList, "v1".toList] := by
  simp only [String.reduceToList]; decide
example : parts ["x".toList, "apis".toList, "meta".toList, "v1".toList] 1 = ["meta".toList, "v1".toList] := by
  simp only [String.reduceToList]; decide

end Gengo.TrC03

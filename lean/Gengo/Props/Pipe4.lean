import Gengo.Props.Pipe
/-! C02, unparseable output: the file whose text does not parse is not among the files the write phase has written. -/
namespace Gengo.Pipeline

theorem fileName_inj (base g₁ g₂ : Str) (h : fileName base g₁ = fileName base g₂) : g₁ = g₂ := by
  unfold fileName at h
  exact List.append_cancel_left (List.append_cancel_right h)

def writesTo (dir name : Str) : Effect → Bool
  | .write d n _ _ => d == dir && n == name
  | _ => false

/-- C02 `fail_keeps_own_file` (unparseable output): when the write phase stops with a syntax error
    for some generator's file, that file has not been written — earlier writes of the same run
    went to other generators' files (generator names are distinct). -/
theorem writes_syntax_keeps (parses : Str → Bool) (a : Args) (p : Pkg) (ws : List (Str × Str))
    (hd : (ws.map (·.1)).Nodup) :
    ∀ (stale : List Str) (eff : List Effect) (d n : Str),
      (writes parses a p ws stale eff).2 = some (.syntax d n) →
      (∀ e ∈ eff, ∀ g ∈ ws.map (·.1), writesTo p.dir (fileName a.base g) e = false) →
      ∀ e ∈ (writes parses a p ws stale eff).1, writesTo d n e = false := by
  intro stale eff d n h heff e he
  rcases writes_cases parses a p ws stale eff with hc | ⟨pre, w, post, rfl, hc⟩ <;> rw [hc] at h he <;> cases h
  -- the run stopped at `w`, after writing the files of `pre`
  rcases List.mem_append.mp he with he | he
  · exact heff e he w.1 (by simp)
  · obtain ⟨w', hw', rfl⟩ := List.mem_map.mp he
    have hne : w'.1 ≠ w.1 := by
      rw [List.map_append, List.map_cons, List.nodup_append] at hd
      exact hd.2.2 _ (List.mem_map_of_mem (List.mem_filter.mp hw').1) _ List.mem_cons_self
    simp only [writesTo, Bool.and_eq_false_imp, beq_iff_eq, beq_eq_false_iff_ne]
    exact fun _ hfn => hne (fileName_inj a.base _ _ hfn)

#print axioms writes_syntax_keeps
end Gengo.Pipeline

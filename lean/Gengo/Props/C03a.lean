import Gengo.Model.Tracker
import Gengo.Props.Pigeon
import Gengo.Props.Assoc
namespace Gengo.Tracker

/-- the two tables are inverse to each other -/
structure Inv (t : Tracker) : Prop where
  fwd : ∀ p n, t.p2n.lookup p = some n → t.n2p.lookup n = some p
  bwd : ∀ n p, t.n2p.lookup n = some p → t.p2n.lookup p = some n

theorem firstFree_eq (c : Cfg) (t : Tracker) (p : Str) : ∀ fuel i,
    firstFree c t p fuel i = ((List.range' i fuel).map (c.fallback p)).find? (free c t p)
  | 0, _ => rfl
  | fuel + 1, i => by
    rw [firstFree, List.range'_succ, List.map_cons, List.find?_cons, firstFree_eq c t p fuel]
    cases free c t p (c.fallback p i) <;> rfl

theorem choose_eq (c : Cfg) (t : Tracker) (p : Str) :
    choose c t p = (c.cands p ++ if c.useFallback then
      (List.range' 0 (t.n2p.length + c.stdNames.length + 1)).map (c.fallback p) else []).find? (free c t p) := by
  rw [choose, List.find?_append]
  cases (c.cands p).find? (free c t p) with
  | some n => rfl
  | none => cases c.useFallback <;> simp [firstFree_eq]

theorem free_iff {c : Cfg} {t : Tracker} {p n : Str} :
    free c t p n = true ↔
      c.reserved n p = false ∧ t.n2p.lookup n = none ∧ (c.useFallback = true → c.valid n = true) := by
  rw [free, Bool.and_eq_true, Bool.and_eq_true, Bool.not_eq_true', Option.isNone_iff_eq_none, and_assoc]
  refine and_congr_right fun _ => and_congr_right fun _ => ?_
  cases c.useFallback <;> simp

theorem add_cases (c : Cfg) (t : Tracker) (p : Str) :
    add c t p = t ∨ ∃ n, t.p2n.lookup p = none ∧ free c t p n = true ∧
      add c t p = ⟨(p, n) :: t.p2n, (n, p) :: t.n2p⟩ := by
  unfold add
  cases hp : t.p2n.lookup p with
  | some _ => exact Or.inl rfl
  | none =>
    cases hn : choose c t p with
    | none => exact Or.inl rfl
    | some n => exact Or.inr ⟨n, rfl, List.find?_some (choose_eq c t p ▸ hn), rfl⟩

theorem lookup_add {c : Cfg} {t : Tracker} {q p n : Str} (h : (add c t q).p2n.lookup p = some n) :
    t.p2n.lookup p = some n ∨ p = q ∧ free c t q n = true := by
  rcases add_cases c t q with e | ⟨m, _, hm, e⟩ <;> rw [e] at h
  · exact Or.inl h
  · rcases Assoc.lookup_cons_eq_some.mp h with ⟨rfl, rfl⟩ | ⟨_, h⟩
    · exact Or.inr ⟨rfl, hm⟩
    · exact Or.inl h

/-- one direction of `Inv` survives a new pair whose value the other table does not have yet -/
theorem inv_cons {a b : List (Str × Str)} (h : ∀ k v, a.lookup k = some v → b.lookup v = some k)
    {k₀ v₀ : Str} (hv : b.lookup v₀ = none) (k v : Str) (hl : ((k₀, v₀) :: a).lookup k = some v) :
    ((v₀, k₀) :: b).lookup v = some k := by
  rcases Assoc.lookup_cons_eq_some.mp hl with ⟨rfl, rfl⟩ | ⟨_, hl⟩
  · exact List.lookup_cons_self
  · have hb := h k v hl
    rw [Assoc.lookup_cons_ne fun e => by rw [e, hv] at hb; cases hb]
    exact hb

/-- C03 `inv_bij`: whatever the candidate function, adding a path keeps the tables inverse. -/
theorem add_inv (c : Cfg) (t : Tracker) (p : Str) (hi : Inv t) : Inv (add c t p) := by
  rcases add_cases c t p with e | ⟨n, hp, hn, e⟩ <;> rw [e]
  · exact hi
  · exact ⟨inv_cons hi.fwd (free_iff.mp hn).2.1, inv_cons hi.bwd hp⟩

/-- every reachable tracker is a bijection -/
theorem adds_inv (c : Cfg) (ps : List Str) : Inv (ps.foldl (add c) empty) :=
  List.foldlRecOn ps (add c) ⟨nofun, nofun⟩ fun t ht p _ => add_inv c t p ht

/-- distinct paths get distinct names -/
theorem names_distinct (t : Tracker) (hi : Inv t) (p₁ p₂ n : Str)
    (h₁ : t.p2n.lookup p₁ = some n) (h₂ : t.p2n.lookup p₂ = some n) : p₁ = p₂ :=
  Option.some.inj ((hi.fwd _ _ h₁).symm.trans (hi.fwd _ _ h₂))

/-- C03 `add_stable`: a binding, once made, never changes -/
theorem add_stable (c : Cfg) (t : Tracker) (p q n : Str) (h : t.p2n.lookup p = some n) :
    (add c t q).p2n.lookup p = some n := by
  rcases add_cases c t q with e | ⟨m, hq, _, e⟩ <;> rw [e]
  · exact h
  · rw [Assoc.lookup_cons_ne fun e => by rw [e, hq] at h; cases h]
    exact h

/-- pinned code (no fallback): when every candidate is taken the path gets no name (F8),
    here for the concrete three-path witness with the candidate lists of the real algorithm. -/
example :
    let c : Cfg := { cands := fun p =>
                        if p = "x/c".toList then ["c".toList, "xc".toList]
                        else if p = "abc".toList then ["abc".toList]
                        else ["c".toList, "abc".toList],
                     reserved := fun _ _ => false, stdNames := [], valid := fun _ => true,
                     useFallback := false, fallback := fun _ _ => [] }
    localNameOf (["x/c".toList, "abc".toList, "ab/c".toList].foldl (add c) empty) "ab/c".toList = [] := by
  decide

/-- what the repair must provide: a fallback sequence of pairwise distinct valid identifiers -/
structure FallbackOK (c : Cfg) : Prop where
  on : c.useFallback = true
  inj : ∀ p i j, c.fallback p i = c.fallback p j → i = j
  valid : ∀ p i, c.valid (c.fallback p i) = true
  std : ∀ n p, c.reserved n p = true → n ∈ c.stdNames

/-- under `FallbackOK` some name is always free: the `|n2p| + |stdNames| + 1` fallback names tried are
    pairwise distinct, so one of them is neither bound nor a std name (pigeonhole) -/
theorem choose_isSome (c : Cfg) (hc : FallbackOK c) (t : Tracker) (p : Str) : (choose c t p).isSome = true := by
  obtain ⟨i, hi, hfresh⟩ := exists_fresh (t.n2p.map (·.1) ++ c.stdNames) (c.fallback p) (hc.inj p)
  rw [List.length_append, List.length_map] at hi
  rw [List.mem_append, not_or] at hfresh
  have hfree : free c t p (c.fallback p i) = true :=
    free_iff.mpr ⟨Bool.eq_false_iff.mpr fun h => hfresh.2 (hc.std _ _ h), Assoc.lookup_eq_none.mpr hfresh.1,
      fun _ => hc.valid p i⟩
  rw [choose_eq, hc.on, List.find?_isSome]
  exact ⟨_, List.mem_append_right _ (List.mem_map_of_mem (List.mem_range'_1.mpr ⟨i.zero_le, by omega⟩)), hfree⟩

/-- C03 `add_binds` (repaired code): after `add p`, `p` has a name — whatever was bound before
    and however the candidates collide (the fallback search cannot be exhausted: pigeonhole). -/
theorem add_binds (c : Cfg) (hc : FallbackOK c) (t : Tracker) (p : Str) :
    ((add c t p).p2n.lookup p).isSome = true := by
  obtain ⟨n, hn⟩ := Option.isSome_iff_exists.mp (choose_isSome c hc t p)
  unfold add
  split
  · assumption
  · rw [hn]; exact Option.isSome_of_eq_some List.lookup_cons_self

/-- every bound name is a valid identifier -/
def AllValid (c : Cfg) (t : Tracker) : Prop := ∀ p n, t.p2n.lookup p = some n → c.valid n = true

/-- C03 `names_valid` (repaired code) -/
theorem add_valid (c : Cfg) (hc : FallbackOK c) (t : Tracker) (p : Str) (h : AllValid c t) :
    AllValid c (add c t p) := by
  intro p' n hl
  rcases lookup_add hl with hl | ⟨_, hn⟩
  · exact h p' n hl
  · exact (free_iff.mp hn).2.2 hc.on

#print axioms adds_inv
#print axioms add_binds
#print axioms add_valid
end Gengo.Tracker

import Gengo.Model.Resolver2
import Gengo.Props.C14b
namespace Gengo.Resolver2
open Gengo.Resolver (Res Visits WFV Mono unv unv_mono unv_le_keys)

/-! ### C14 on the extended language: `ResultsOf` returns, with one non-empty list per result -/

/-- the result arities are all the termination argument needs: the key space of `Props/C14b` -/
def core (p : Prog) : Resolver.Prog := p.map fun fn => ⟨fn.results.map fun t => ⟨t, false⟩, []⟩

theorem core_length (p : Prog) : (core p).length = p.length := by simp [core]

theorem nres_eq {p : Prog} {g : Nat} {fn : Func} (h : p[g]? = some fn) : nres p g = fn.results.length := by
  simp [nres, h]

theorem nres_core (p : Prog) (g : Nat) : Resolver.nres (core p) g = nres p g := by
  simp only [Resolver.nres, nres, core, List.getElem?_map]
  cases p[g]? <;> simp

/-- a producer that returns, keeps the table well formed and only adds marks — on states with at
    most `B` unvisited keys -/
def ProdOK (p : Prog) (B : Nat) (f : Visits → Out) : Prop :=
  ∀ vs, WFV (core p) vs → unv (core p) vs ≤ B →
    ∃ o vs', f vs = some (o, vs') ∧ WFV (core p) vs' ∧ Mono vs vs'

def KOK (p : Prog) (B : Nat) (k : K) : Prop := ∀ r, ProdOK p B (k r)

def RecOK (p : Prog) (B : Nat) (rec : Rec) : Prop :=
  ∀ g retN at_ k, (at_ < nres p g ∨ p[g]? = none) → KOK p B k → ProdOK p B (fun vs => rec vs g retN at_ k)

theorem KOK.le {p : Prog} {B B' : Nat} {k : K} (h : KOK p B k) (hb : B' ≤ B) : KOK p B' k :=
  fun r vs hw hu => h r vs hw (Nat.le_trans hu hb)

theorem done_ok {p : Prog} {B : Nat} : ProdOK p B done :=
  fun _ hw _ => Resolver.Ok.pure hw

theorem seq_ok {p : Prog} {B : Nat} {a b : Visits → Out} (ha : ProdOK p B a) (hb : ProdOK p B b) :
    ProdOK p B (seq a b) := by
  intro vs hw hu
  obtain ⟨o₁, vs₁, h₁, hw₁, hm₁⟩ := ha vs hw hu
  obtain ⟨o₂, vs₂, h₂, hw₂, hm₂⟩ := hb vs₁ hw₁ (Nat.le_trans (unv_mono (core p) hm₁) hu)
  exact ⟨o₁ ++ o₂, vs₂, by simp [seq, h₁, h₂], hw₂, hm₁.trans hm₂⟩

theorem errIdxs_lt {p : Prog} {g j : Nat} (h : j ∈ errIdxs p g) : j < nres p g := by
  unfold errIdxs at h
  cases hg : p[g]? with
  | none => simp [hg] at h
  | some fn =>
    simp only [hg, List.mem_filter, List.mem_range] at h
    exact nres_eq hg ▸ h.1

theorem litErrs_ok {p : Prog} {B : Nat} {rec : Rec} (hr : RecOK p B rec) (retN : Nat) {g : Nat} {k : K} (hk : KOK p B k) :
    ∀ js : List Nat, (∀ j ∈ js, j < nres p g) → ProdOK p B (litErrs rec retN g k js)
  | [], _ => done_ok
  | j :: js, h =>
    seq_ok (hr g retN j k (Or.inl (List.forall_mem_cons.mp h).1) hk)
      (litErrs_ok hr retN hk js (List.forall_mem_cons.mp h).2)

theorem sigRets_lt {p : Prog} {sig : Sig} {g ci : Nat} {t : List Char} (hg : sig.target = some g)
    (h : (sigRets p sig)[ci]? = some t) : ci < nres p g ∨ p[g]? = none := by
  cases hp : p[g]? with
  | none => exact Or.inr rfl
  | some fn =>
    simp only [sigRets, hg, Option.bind_some, hp] at h
    exact Or.inl (nres_eq hp ▸ (List.getElem?_eq_some_iff.mp h).1)

mutual
theorem exprAt_ok (p : Prog) (B : Nat) (rec : Rec) (hr : RecOK p B rec) (retN q : Nat) :
    ∀ (e : Expr) (ci : Nat) (k : K), KOK p B k → ProdOK p B (exprAt p rec retN q e ci k)
  | .call sig args, ci, k, hk => by
    intro vs hw hu
    unfold exprAt
    split
    · exact Resolver.Ok.pure hw
    next t ht =>
      cases follows t with
      | false => exact hk _ vs hw hu
      | true =>
        refine seq_ok ?_ ?_ vs hw hu
        · cases isErr t with
          | false => exact done_ok
          | true => exact argsAt_ok p B rec hr retN q args sig.perr k hk
        · split
          · exact done_ok
          next g hg => exact hr g (nres p g) ci k (sigRets_lt hg ht) hk
  -- on these constructors `exprAt` reduces to a call of the consumer, by definition
  | .lit _, _, k, hk | .opaque _, _, k, hk | .ident .., _, k, hk | .funcLit .., _, k, hk =>
    fun vs => hk _ vs
theorem argsAt_ok (p : Prog) (B : Nat) (rec : Rec) (hr : RecOK p B rec) (retN q : Nat) :
    ∀ (as : Args) (perr : List Bool) (k : K), KOK p B k → ProdOK p B (argsAt p rec retN q as perr k)
  | .nil, _, _, _ => fun _ hw _ => Resolver.Ok.pure hw
  | .cons a rest, perr, k, hk => by
    intro vs
    refine seq_ok ?_ (seq_ok ?_ (argsAt_ok p B rec hr retN q rest perr.tail k hk)) vs
    · cases perr.headD false with
      | false => exact done_ok
      | true => exact exprAt_ok p B rec hr retN q a 0 k hk
    · split
      · exact litErrs_ok hr retN hk _ fun _ => errIdxs_lt
      · exact done_ok
end

theorem exprsAt_ok (p : Prog) (B : Nat) (rec : Rec) (hr : RecOK p B rec) (retN q : Nat) (rhs : List Expr)
    (n at_ : Nat) (k : K) (hk : KOK p B k) : ProdOK p B (exprsAt p rec retN q rhs n at_ k) := by
  -- branches 1 and 4 of `exprsAt`: one call forwarding all results; the expression at position `at_`
  fun_cases exprsAt p rec retN q rhs n at_ k with
  | case1 => exact exprAt_ok p B rec hr retN q _ at_ k hk
  | case2 | case3 => exact done_ok
  | case4 => exact exprAt_ok p B rec hr retN q _ 0 k hk

theorem assignedAt_ok (p : Prog) (B : Nat) (rec : Rec) (hr : RecOK p B rec) (retN x : Nat) (vis : List Stmt)
    (k : K) (hk : KOK p B k) : ProdOK p B (assignedAt p rec retN x vis k) := by
  unfold assignedAt
  split
  · exact done_ok
  · exact exprsAt_ok p B rec hr retN _ _ _ _ k hk

theorem post_ok (p : Prog) (B : Nat) (rec : Rec) (hr : RecOK p B rec) (retN : Nat) (body : List Stmt)
    (k : K) (hk : KOK p B k) : KOK p B (post p rec retN body k) := by
  intro r
  unfold post
  split
  · exact hk r
  · refine seq_ok ?_ (assignedAt_ok p B rec hr retN _ _ k hk)
    split
    · exact hk r
    · exact done_ok

theorem stmtsAt_ok (p : Prog) (B : Nat) (rec : Rec) (hr : RecOK p B rec) (retN : Nat) (fn : Func)
    (body : List Stmt) (at_ : Nat) (k : K) (hk : KOK p B k) :
    ∀ ss : List Stmt, ProdOK p B (stmtsAt p rec retN fn body at_ k ss) := by
  intro ss
  -- the clauses of `stmtsAt`: no statement; an assignment; a bare `return`; a `return` with results
  fun_induction stmtsAt p rec retN fn body at_ k ss with
  | case1 => exact done_ok
  | case2 _ _ _ _ ih => exact ih
  | case3 q rest ih =>
    refine seq_ok ?_ ih
    split
    · exact assignedAt_ok p B rec hr retN _ _ k hk
    · exact done_ok
  | case4 q rhs rest ih =>
    exact seq_ok (exprsAt_ok p B rec hr retN q rhs retN at_ _ (post_ok p B rec hr retN body k hk)) ih

/-- a descent into a body returns if the statements of the body do, on states with fewer unvisited keys -/
theorem funcAt_ok {p : Prog} {fuel B g retN at_ : Nat} {k : K} {vs : Visits}
    (hat : at_ < nres p g ∨ p[g]? = none) (hw : WFV (core p) vs) (hu : unv (core p) vs ≤ B)
    (hbody : ∀ fn body vs', WFV (core p) vs' → unv (core p) vs' < B →
      Resolver.Ok (core p) vs' (stmtsAt p (funcAt p fuel) retN fn body at_ k body vs')) :
    Resolver.Ok (core p) vs (funcAt p (fuel + 1) vs g retN at_ k) := by
  rw [funcAt]
  split
  · exact .pure hw
  next fn hg =>
    split
    · exact .pure hw
    next body _ =>
      have hlen : g < (core p).length := core_length p ▸ (List.getElem?_eq_some_iff.mp hg).1
      have hat' : at_ < fn.results.length := nres_eq hg ▸ hat.resolve_right (by simp [hg])
      apply Resolver.descend_ok hw hlen ((nres_core p g).trans (nres_eq hg)) hat' hu (hbody fn body)

/-- C14 `resolve_terminates`, extended language: with more fuel than unvisited keys a descent
    returns — whatever the program (recursion through calls, arguments, function literals,
    assignments, named results) and whatever the consumer does between two productions, as long
    as the consumer itself returns and only adds marks. -/
theorem funcAt_terminates (p : Prog) : ∀ fuel, RecOK p fuel (funcAt p (fuel + 1)) := by
  intro fuel
  induction fuel with
  | zero =>
    intro g retN at_ k hat hk vs hw hu
    exact funcAt_ok hat hw hu fun _ _ _ _ h => absurd h (Nat.not_lt_zero _)
  | succ n ih =>
    intro g retN at_ k hat hk vs hw hu
    exact funcAt_ok hat hw hu fun fn body vs' hw' h =>
      stmtsAt_ok p n _ ih retN fn body at_ k (hk.le (Nat.le_succ n)) body vs' hw' (Nat.le_of_lt_succ h)

theorem collect_ok {p : Prog} {B : Nat} : KOK p B collect :=
  fun _ _ hw _ => Resolver.Ok.pure hw

theorem resultsOfAux_eq (p : Prog) (fuel g : Nat) (fn : Func) (as : List Nat) (vs : Visits) (acc : List (List Res)) :
    resultsOfAux p fuel g fn as vs acc =
      Resolver.collectAux (fun vs a => funcAt p fuel vs g fn.results.length a collect)
        (fun a => .ty (fn.results[a]?.getD [])) as vs acc := by
  fun_induction resultsOfAux p fuel g fn as vs acc with
  | case1 => rfl
  | case2 _ _ _ _ h => rw [Resolver.collectAux, h]
  | case3 _ _ _ _ _ _ h _ ih =>
    rw [Resolver.collectAux, h]
    exact ih

/-- C14 `shape`, extended language: for every function of every program, `ResultsOf` returns
    (no unbounded recursion) exactly one non-empty list of alternatives per declared result. -/
theorem resultsOf_shape (p : Prog) (g : Nat) (hg : g < p.length) :
    ∃ rs, resultsOf p ((Resolver.keys (core p)).length + 1) g = some rs ∧
      rs.length = (p[g]).results.length ∧ ∀ r ∈ rs, r ≠ [] := by
  have hfn : p[g]? = some p[g] := List.getElem?_eq_getElem hg
  obtain ⟨rs, h, hlen, hne⟩ := Resolver.collectAux_shape (core p) (List.range (p[g]).results.length)
    (fun a ha vs hw => funcAt_terminates p _ g _ a collect (Or.inl (nres_eq hfn ▸ List.mem_range.mp ha))
      collect_ok vs hw (unv_le_keys (core p) vs))
    [] [] nofun
  rw [resultsOf, hfn]
  exact ⟨rs, (resultsOfAux_eq ..).trans h, hlen.trans List.length_range, hne⟩

#print axioms funcAt_terminates
#print axioms resultsOf_shape
end Gengo.Resolver2

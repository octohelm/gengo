import Gengo.Gen.Code.C08
import Gengo.Model.SumFile
import Gengo.Props.GoRtLemmas
/-!
C08, tie by translation: `Gengo.Code.sumBytes`, regenerated by `go2lean` from `(*File).Bytes` in `pkg/sumfile/file.go`
on every run, is the hand-written `SumFile.bytes` (about which `Props/C08a`, `C08d`, `C08e` prove `load_bytes_entries`,
`roundtrip`, `converges_bytes`) for every map presented without repeated keys.
-/
namespace Gengo.TrC08
open Gengo Gengo.Go Gengo.Code Gengo.SumFile

theorem sumBytes_loop (data : List (Str × Str)) (ks : List Str) (b : Str) :
    sumBytes.loop1 data ks b = pure (b ++ (ks.map fun k => line (k, Go.mapGet data k [])).flatten) := by
  induction ks generalizing b with
  | nil => simp [sumBytes.loop1]
  | cons k rest ih => simp [sumBytes.loop1, ih, line]

/-- the translated `Bytes` is the model's `bytes`: one `path SP hash LF` line per entry, sorted by path -/
theorem sumBytes_eq (data : List (Str × Str)) (hd : (data.map (·.1)).Nodup) :
    Code.sumBytes data = pure (SumFile.bytes data) := by
  simp [Code.sumBytes, SumFile.bytes, sumBytes_loop, GoRtLemmas.sortedKeys_mapGet data hd]

/-- the hypothesis is what a Go map gives: distinct keys -/
example : ([("b".toList, "h2".toList), ("a".toList, "h1".toList)].map (·.1)).Nodup := by decide

end Gengo.TrC08

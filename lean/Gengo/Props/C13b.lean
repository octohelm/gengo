import Gengo.Model.Register
/-!
C13, registration order (`Model/Register`): with the dependencies registered first every import entry of every
registered package is resolved (`register_ok`), on a closed acyclic import graph.  Acyclicity is a height `h` that
decreases along imports; it also says how much fuel is enough.
-/
namespace Gengo.Register

/-- pinned order (F12b): a package registered before its dependency keeps a nil import entry -/
example :
    let g : Graph := [⟨['p'], [['q']]⟩, ⟨['q'], []⟩]
    (register false g 5 ['p'] []).lookup ['p'] = some [(['q'], false)] ∧
    (register true g 5 ['p'] []).lookup ['p'] = some [(['q'], true)] := by decide

/-- every import entry of every registered package is resolved -/
def Resolved (u : U) : Prop := ∀ q tbl, (q, tbl) ∈ u → ∀ i r, (i, r) ∈ tbl → r = true

def Mono (u u' : U) : Prop := ∀ q, (u.lookup q).isSome = true → (u'.lookup q).isSome = true

/-- the graph is closed and acyclic: `h` strictly decreases along imports -/
structure DAG (g : Graph) (h : Str → Nat) : Prop where
  closed : ∀ n ∈ g, ∀ i ∈ n.imports, (node g i).isSome = true
  down : ∀ p n, node g p = some n → ∀ i ∈ n.imports, h i < h p

/-- for a given graph the two conditions can be checked node by node -/
theorem DAG.of_nodes {g : Graph} {h : Str → Nat}
    (hg : ∀ n ∈ g, ∀ i ∈ n.imports, (node g i).isSome = true ∧ h i < h n.path) : DAG g h where
  closed n hn i hi := (hg n hn i hi).1
  down p n hnode i hi := by
    obtain rfl : n.path = p := by simpa using List.find?_some hnode
    exact (hg n (List.mem_of_find?_eq_some hnode) i hi).2

/-- what one registration guarantees -/
def RegOK (g : Graph) (rec : Str → U → U) (p : Str) : Prop :=
  ∀ u, Resolved u → Resolved (rec p u) ∧ Mono u (rec p u) ∧ ((rec p u).lookup p).isSome = true

/-- the body of `registerDeps`' loop, which skips a package that is registered already, guarantees what `rec` does -/
theorem guard_ok {g : Graph} {rec : Str → U → U} {i : Str} (h : RegOK g rec i) :
    RegOK g (fun i u => if (u.lookup i).isSome then u else rec i u) i := by
  intro u hu
  dsimp only
  split
  · next hreg => exact ⟨hu, fun _ h => h, hreg⟩
  · exact h u hu

theorem registerDeps_ok (g : Graph) (rec : Str → U → U) (is : List Str)
    (hrec : ∀ i ∈ is, RegOK g rec i) :
    ∀ u, Resolved u →
      Resolved (registerDeps rec is u) ∧ Mono u (registerDeps rec is u) ∧
      ∀ i ∈ is, ((registerDeps rec is u).lookup i).isSome = true := by
  induction is with
  | nil => intro u hu; exact ⟨hu, fun _ h => h, fun _ hi => nomatch hi⟩
  | cons i is ih =>
    intro u hu
    rw [List.forall_mem_cons] at hrec
    obtain ⟨h1, h2, h3⟩ := guard_ok hrec.1 u hu
    obtain ⟨k1, k2, k3⟩ := ih hrec.2 _ h1
    exact ⟨k1, fun q hq => k2 q (h2 q hq), List.forall_mem_cons.mpr ⟨k2 i h3, k3⟩⟩

/-- the repaired order: the dependencies first, then the package with the table `newPkg` builds from what is
    registered by then -/
theorem register_succ {g : Graph} {p : Str} {n : Node} (hn : node g p = some n) (fuel : Nat) (u : U) :
    register true g (fuel + 1) p u =
      (p, newPkg (registerDeps (register true g fuel) n.imports u) n) ::
        registerDeps (register true g fuel) n.imports u := by
  simp only [register, hn, if_true]

/-- C13 `imports_total` (repaired order): registering a package of a closed acyclic import graph
    with enough fuel leaves every import entry of every registered package resolved — the
    package's own table included —, and the package registered. -/
theorem register_ok (g : Graph) (h : Str → Nat) (hd : DAG g h) :
    ∀ fuel p, h p < fuel → (node g p).isSome = true → RegOK g (register true g fuel) p := by
  intro fuel
  induction fuel with
  | zero => intro p hp; exact absurd hp (Nat.not_lt_zero _)
  | succ k ih =>
    intro p hp hn u hu
    obtain ⟨n, hnode⟩ := Option.isSome_iff_exists.mp hn
    obtain ⟨d1, d2, d3⟩ := registerDeps_ok g (register true g k) n.imports
      (fun i hi => ih i (Nat.lt_of_lt_of_le (hd.down p n hnode i hi) (Nat.le_of_lt_succ hp))
        (hd.closed n (List.mem_of_find?_eq_some hnode) i hi)) u hu
    rw [register_succ hnode]
    refine ⟨fun q tbl hq i r hir => ?_, fun q hq => ?_, by simp⟩
    · rcases List.mem_cons.mp hq with heq | hq
      · -- the new table: each entry says whether the import is registered by now, and it is
        cases heq
        obtain ⟨j, hj, hjr⟩ := List.mem_map.mp hir
        cases hjr
        exact d3 _ hj
      · exact d1 q tbl hq i r hir
    · rw [List.lookup_cons]
      cases q == p <;> simp [d2 q hq]

#print axioms register_ok
end Gengo.Register

import Gengo.Model.Template
namespace Gengo.Template

variable (env : Env) (fixed : Bool)

/-- the scanner started in state `s` (`scan` is `scanFrom .normal`): what `step` emits is put in
    front of what the rest of the input produces, one equation per step (`scanFrom_cons`) -/
def scanFrom (s : St) (l : List Char) : Option (List Char) :=
  (run env fixed s l).bind fun p => (finish env p.1).map (p.2 ++ ·)

theorem scanFrom_normal (l : List Char) : scanFrom env fixed .normal l = scan env fixed l := by
  unfold scanFrom scan
  cases run env fixed .normal l <;> rfl

theorem scanFrom_nil (s : St) : scanFrom env fixed s [] = finish env s := by
  simp [scanFrom, run]

theorem scanFrom_cons (s : St) (c : Char) (cs : List Char) :
    scanFrom env fixed s (c :: cs) =
      (step env fixed s c).bind fun p => (scanFrom env fixed p.1 cs).map (p.2 ++ ·) := by
  unfold scanFrom
  rw [run]
  cases step env fixed s c with
  | none => rfl
  | some p => simp [Option.bind_map, Option.map_bind, Function.comp_def]

/-- a character other than `@` in normal state is copied. -/
theorem scan_lit (c : Char) (r : List Char) (h : c ≠ '@') :
    scan env fixed (c :: r) = (scan env fixed r).map (c :: ·) := by
  simp [← scanFrom_normal, scanFrom_cons, step, h]

theorem scan_lit_append (a r : List Char) (ha : ∀ c ∈ a, c ≠ '@') :
    scan env fixed (a ++ r) = (scan env fixed r).map (a ++ ·) := by
  induction a with
  | nil => simp
  | cons c cs ih =>
    rw [List.cons_append, scan_lit env fixed c _ (ha c (by simp)), ih (fun d hd => ha d (by simp [hd]))]
    simp [Function.comp_def]

/-- literal text without `@` is rendered verbatim -/
theorem scan_literal (l : List Char) (h : ∀ c ∈ l, c ≠ '@') : scan env fixed l = some l := by
  simpa [scan, run, finish] using scan_lit_append env fixed l [] h

theorem run_name (acc n : List Char) (hn : ∀ c ∈ n, isNameChar c = true) (r : List Char) :
    run env fixed (.inName acc) (n ++ r) = run env fixed (.inName (acc ++ n)) r := by
  induction n generalizing acc with
  | nil => simp
  | cons c cs ih =>
    have hc : isNameChar c = true := hn c (by simp)
    simp [run, step, hc, ih (acc ++ [c]) (fun d hd => hn d (by simp [hd]))]

theorem scanFrom_name (acc n : List Char) (hn : ∀ c ∈ n, isNameChar c = true) (r : List Char) :
    scanFrom env fixed (.inName acc) (n ++ r) = scanFrom env fixed (.inName (acc ++ n)) r := by
  simp only [scanFrom, run_name env fixed acc n hn r]

theorem scan_at (r : List Char) : scan env fixed ('@' :: r) = scanFrom env fixed (.inName []) r := by
  simp [← scanFrom_normal, scanFrom_cons, step]

/-- what follows a finished placeholder whose text is `t` (`wasNil`: bound to a nil snippet) -/
def afterHole (t : List Char) (wasNil : Bool) : List Char → Option (List Char)
  | [] => some t
  | c :: r =>
    if c == '@' then (scan env fixed (c :: r)).map (t ++ ·)
    else if c == '\'' && (fixed || !wasNil) then (scan env fixed r).map (t ++ ·)
    else (scan env fixed r).map (fun o => t ++ c :: o)

/-- `@` followed by a maximal run `n` of name characters: the placeholder is replaced by
    the complete rendering of its argument; one apostrophe is the delimiter; an `@` right after
    starts the next placeholder; any other terminator is copied.  Panics iff `flush` does. -/
theorem scan_hole (n r : List Char) (hn : ∀ c ∈ n, isNameChar c = true)
    (hr : ∀ c, r.head? = some c → isNameChar c = false) :
    scan env fixed ('@' :: n ++ r) =
      match flush env n with
      | none => none
      | some (t, wasNil) => afterHole env fixed t wasNil r := by
  rw [List.cons_append, scan_at, scanFrom_name env fixed [] n hn r, List.nil_append]
  cases r with
  | nil => rw [scanFrom_nil, finish]; cases flush env n <;> rfl
  | cons c r =>
    rw [scanFrom_cons]
    simp only [step, hr c rfl]
    cases flush env n with
    | none => rfl
    | some tw =>
      -- `step` and `afterHole` test the terminator `c` alike: `@` opens the next placeholder, a delimiting
      -- apostrophe is dropped, any other character is copied behind the text of this one
      by_cases hat : c = '@'
      · subst hat; simp [afterHole, scan_at]
      · by_cases hap : (c == '\'' && (fixed || !tw.2)) = true <;>
          simp [afterHole, hat, hap, scanFrom_normal]

/-- the scanner is history-free at every `@`. -/
theorem scan_at_hom (a r : List Char) (ha : ∀ c ∈ a, c ≠ '@') :
    scan env fixed (a ++ '@' :: r) = (scan env fixed ('@' :: r)).map (a ++ ·) :=
  scan_lit_append env fixed a _ ha

/-- pinned code: a nil argument followed by an apostrophe keeps the apostrophe (F5). -/
example : render (fun n => if n = ['x'] then some none else none) false "a@x'b".toList
    = some "a'b".toList := by
  simp only [String.reduceToList]; decide
/-- repaired code: the apostrophe is consumed. -/
example : render (fun n => if n = ['x'] then some none else none) true "a@x'b".toList
    = some "ab".toList := by
  simp only [String.reduceToList]; decide
/-- substituted text is never re-read as template syntax -/
example : render (fun n => if n = ['x'] then some (some (some "@y'".toList)) else none) true "\n\n@x'@x".toList
    = some "@y'@y'".toList := by decide

end Gengo.Template

import Gengo.Gen.Code.C09
import Gengo.Model.Sprintf
import Gengo.Props.GoRtLemmas
/-!
C09, tie by translation: the fragments `snippet.Comment` and `snippet.GoDirective` hand their consumer —
`Gengo.Code.commentFrags` and `Gengo.Code.directiveFrags`, regenerated by `go2lean` from the bodies of the iterator
literals in pkg/gengo/snippet/snippet__comment.go and snippet__go_directive.go on every run (`if !yield(x) { return }`
read as "emit x"; a consumer that never stops early, which is what `SnippetWriter.Render` is) — concatenate to the
hand-written model `Sprintf.comment` / `Sprintf.directive`, about which `Props/C09d` proves `comment_lines` and
`lines_roundtrip`.  C09 `directive_spec` is `directiveFrags_eq` together with the one-line model `Sprintf.directive`.
-/
namespace Gengo.TrC09
open Gengo Gengo.Go Gengo.Code Gengo.Sprintf

theorem strSplitAux_nl (s cur : Str) : Go.strSplitAux ['\n'] 0 s cur = splitLines s cur := by
  induction s generalizing cur with
  | nil => rfl
  | cons c cs ih =>
    by_cases h : c = '\n'
    · subst h
      simp [Go.strSplitAux, splitLines, List.isPrefixOf, ih]
    · simp [Go.strSplitAux, splitLines, List.isPrefixOf, h, Ne.symm h, ih]

theorem strSplit_nl (s : Str) : Go.strSplit s ['\n'] = splitLines s [] := strSplitAux_nl s []

/-- after its first round the loop of `Comment` emits a line feed and `// l` for every line -/
theorem comment_loop (ls : List Str) (i : Int) (hi : i > 0) (out : List Str) :
    commentFrags.loop1 ls i out = pure (.next (out ++ ls.flatMap fun l => [['\n'], ['/', '/', ' '] ++ l])) := by
  induction ls generalizing i out with
  | nil => simp [commentFrags.loop1]
  | cons l rest ih =>
    rw [commentFrags.loop1, if_pos (decide_eq_true hi), ih (i + 1) (by omega)]
    simp

/-- what `Comment(v)` emits are the pieces the model concatenates: `// l` for every line, line feeds in between -/
theorem commentFrags_lines (v : Str) :
    Code.commentFrags v = pure (if v = [] then [] else
      ((splitLines v []).map fun l => ['/', '/', ' '] ++ l).intersperse ['\n']) := by
  unfold Code.commentFrags
  cases v with
  | nil => rfl
  | cons c cs =>
    rw [show (Char.ofNat 10) = '\n' from rfl, strSplit_nl]
    cases splitLines (c :: cs) [] with
    | nil => rfl
    | cons l ls => simp [commentFrags.loop1, comment_loop, GoRtLemmas.intersperse_cons_flatMap, List.flatMap_map]

/-- the fragments `Comment(v)` emits concatenate to the model's rendering -/
theorem commentFrags_eq (v : Str) : ∃ r, Code.commentFrags v = pure r ∧ r.flatten = Sprintf.comment v := by
  refine ⟨_, commentFrags_lines v, ?_⟩
  cases v <;> simp [Sprintf.comment]

theorem directive_loop (args : List Str) (out : List Str) :
    directiveFrags.loop1 args out = pure (.next (out ++ (args.filter (!·.isEmpty)).flatMap fun a => [[' '], a])) := by
  induction args generalizing out with
  | nil => simp [directiveFrags.loop1]
  | cons a rest ih => cases a <;> simp [directiveFrags.loop1, Go.len, ih]

theorem directiveFrags_args (d : Str) (args : List Str) :
    Code.directiveFrags d args = pure (if d = [] then [] else
      ['/', '/', 'g', 'o', ':'] :: d :: (args.filter (!·.isEmpty)).flatMap fun a => [[' '], a]) := by
  cases d <;> simp [Code.directiveFrags, directive_loop]

/-- `directive_spec`: the fragments `GoDirective(d, args…)` emits concatenate to `//go:` d and a space before every
    non-empty argument — nothing at all for an empty directive -/
theorem directiveFrags_eq (d : Str) (args : List Str) :
    ∃ r, Code.directiveFrags d args = pure r ∧ r.flatten = Sprintf.directive d args := by
  refine ⟨_, directiveFrags_args d args, ?_⟩
  cases d <;> simp [Sprintf.directive, List.flatMap_def, List.flatten_flatten, Function.comp_def]

example : Code.directiveFrags "build".toList ["linux".toList, [], "amd64".toList] =
    .ok ["//go:".toList, "build".toList, " ".toList, "linux".toList, " ".toList, "amd64".toList] := by
  simp only [String.reduceToList]; rfl
example : Code.commentFrags "a\nb".toList = .ok ["// a".toList, "\n".toList, "// b".toList] := by
  simp only [String.reduceToList]; rfl

end Gengo.TrC09

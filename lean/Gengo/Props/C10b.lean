import Gengo.Props.C10lit
import Gengo.Props.Order
namespace Gengo.Dumper

/-! Syntactic well-formedness of what the repaired value printer emits. -/

mutual
  /-- a printed expression that Go's grammar and addressability rules accept:
      no empty operand, `&` only of a composite literal, the closure idiom only around a constant -/
  def Expr.Valid : Expr → Prop
    | .raw s => s ≠ []
    | .addr e => e.isComp = true ∧ e.Valid
    | .closure ty e => ty ≠ [] ∧ e.isRaw = true ∧ e.Valid
    | .comp ty es => ty ≠ [] ∧ ValidElems es
  def ValidElems : List (Option Str × Expr) → Prop
    | [] => True
    | (k, e) :: rest => k ≠ some [] ∧ e.Valid ∧ ValidElems rest
  def Expr.isComp : Expr → Bool
    | .comp .. => true
    | _ => false
  def Expr.isRaw : Expr → Bool
    | .raw _ => true
    | _ => false
end

theorem validElems_iff {es : List (Option Str × Expr)} :
    ValidElems es ↔ ∀ x ∈ es, x.1 ≠ some [] ∧ x.2.Valid := by
  induction es with
  | nil => simp [ValidElems]
  | cons x xs ih =>
    obtain ⟨k, e⟩ := x
    simp only [ValidElems, ih, List.mem_cons, forall_eq_or_imp, and_assoc]

theorem valid_show_ne {e : Expr} (h : e.Valid) : e.show ≠ [] := by
  intro hs
  rw [Expr.show_eq_nil.mp hs] at h
  exact h rfl

mutual
  /-- the value domain of C10 as the dumper sees it: non-empty leaf literals and type texts,
      single-level pointers, no interfaces -/
  def Dom : Val → Prop
    | .leaf k ty lit _ => ty ≠ [] ∧ lit ≠ [] ∧ k.isScalar = true
    | .nilPtr => True
    | .ptr elem => elem.isPtrLike = false ∧ Dom elem
    | .struct ty fs => ty ≠ [] ∧ DomFields fs
    | .map ty es => ty ≠ [] ∧ DomEntries es
    | .seq ty es => ty ≠ [] ∧ DomList es
    | .iface => False
  def DomFields : List (Str × Bool × Val) → Prop
    | [] => True
    | (n, _, v) :: rest => n ≠ [] ∧ Dom v ∧ DomFields rest
  def DomEntries : List (Val × Val) → Prop
    | [] => True
    | (k, v) :: rest => Dom k ∧ Dom v ∧ k.isStructOrLeaf = true ∧ DomEntries rest
  def DomList : List Val → Prop
    | [] => True
    | v :: rest => Dom v ∧ DomList rest
  def Kind.isScalar : Kind → Bool
    | .basic n => !n.isEmpty
    | .string => true
    | _ => false
  def Val.isPtrLike : Val → Bool
    | .ptr _ => true
    | .nilPtr => true
    | .iface => true
    | _ => false
  def Val.isStructOrLeaf : Val → Bool
    | .leaf .. => true
    | .struct .. => true
    | _ => false
end

mutual
  /-- With `SubValue` off the repaired printer always yields a valid expression; with it on, the
      only other outcome is the hole `""`, and only for a struct (whose field is then omitted). -/
  theorem valueLit_valid : (v : Val) → Dom v → ∀ sub,
      (valueLit true sub v).Valid ∨ (sub = true ∧ valueLit true sub v = .raw [] ∧ v.kind = .struct)
    | .nilPtr, _, _ => .inl (by simp [valueLit, Expr.Valid])
    | .iface, h, _ => h.elim
    | .leaf _ _ lit _, ⟨_, hlit, _⟩, _ => .inl hlit
    | .ptr v, ⟨hnp, hd⟩, sub => by
      left
      cases v with
      | leaf k ty lit e =>
        obtain ⟨hty, hlit, hk⟩ := hd
        rw [valueLit_ptr_leaf sub (by cases k <;> simp [Kind.isScalar] at hk ⊢)]
        exact ⟨hty, rfl, hlit⟩
      | nilPtr | ptr _ | iface => cases hnp
      | struct _ _ | map _ _ | seq _ _ =>
        rw [valueLit_ptr_comp sub ⟨_, _, rfl⟩]
        -- with `SubValue` off the second alternative (`sub = true ∧ …`) is impossible
        exact ⟨rfl, (valueLit_valid _ hd false).resolve_right (nomatch ·.1)⟩
    | .struct ty fs, ⟨hty, hfs⟩, sub => by
      rw [valueLit_struct]
      split
      case isTrue h => exact .inr ⟨h.1, rfl, rfl⟩
      case isFalse => exact .inl ⟨hty, structFields_valid fs hfs⟩
    | .map ty es, ⟨hty, hes⟩, sub => by
      rw [valueLit_map]
      refine .inl ⟨hty, validElems_iff.mpr ?_⟩
      intro x hx
      obtain ⟨kv, hkv, rfl⟩ := List.mem_map.mp hx
      exact mapEntries_valid es hes kv ((mem_sortBy _ _ kv).mp hkv)
    | .seq ty es, ⟨hty, hes⟩, sub => .inl ⟨hty, seqElems_valid es hes⟩
  theorem structFields_valid : (fs : List (Str × Bool × Val)) → DomFields fs → ValidElems (structFields true fs)
    | [], _ => trivial
    | (n, ex, v) :: rest, ⟨hn, hv, hrest⟩ => by
      have ih := structFields_valid rest hrest
      rw [structFields_cons]
      split
      case isTrue hp =>
        -- the field's literal is not the hole, since it does not print as the empty text
        have hne : valueLit true true v ≠ .raw [] := mt Expr.show_eq_nil.mpr hp.2.2
        exact ⟨by simpa using hn, (valueLit_valid v hv true).resolve_right fun h => hne h.2.1, ih⟩
      case isFalse => exact ih
  theorem mapEntries_valid : (es : List (Val × Val)) → DomEntries es →
      ∀ kv ∈ mapEntries true false es, (some kv.1, kv.2).1 ≠ some [] ∧ kv.2.Valid
    | [], _ => nofun
    | (k, v) :: rest, ⟨hk, hv, _, hrest⟩ => by
      intro kv hkv
      rcases List.mem_cons.mp hkv with rfl | hkv
      · have hkk := (valueLit_valid k hk false).resolve_right (nomatch ·.1)
        exact ⟨by simpa using valid_show_ne hkk, (valueLit_valid v hv false).resolve_right (nomatch ·.1)⟩
      · exact mapEntries_valid rest hrest kv hkv
  theorem seqElems_valid : (es : List Val) → DomList es → ValidElems (seqElems true es)
    | [], _ => trivial
    | v :: rest, ⟨hv, hrest⟩ =>
      ⟨nofun, (valueLit_valid v hv false).resolve_right (nomatch ·.1), seqElems_valid rest hrest⟩
end

/-- pinned code: the hole escapes into `&( )` — not a valid expression (F9) -/
example : ¬ (valueLit false false (.struct ['W'] [(['P'], true,
    .ptr (.struct ['I'] [(['X'], true, .leaf (.basic ['i']) ['i'] ['0'] true)]))])).Valid := by
  simp [valueLit, structFields, Val.isEmpty, Val.kind, Expr.show, Expr.Valid, ValidElems, Expr.isComp]

#print axioms valueLit_valid
end Gengo.Dumper

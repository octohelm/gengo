import Gengo.Gen.Code.C15b
import Gengo.Model.TypeRef
import Gengo.Props.C15
import Gengo.Props.TrC15b
/-!
C15, tie by translation: `Gengo.Code.typeRefString`, regenerated by `go2lean` from `(*TypeRef).String` in
pkg/types/ref.go on every run (a `strings.Builder`, the loop over `TypeList` with the recursive call inside), prints
what the hand-written model `TRef.print` prints, given fuel of at least the depth of the reference.
-/
namespace Gengo.TrC15c
open Gengo Gengo.Go Gengo.Code Gengo.TypeRef

/-- the loop over the type list: with `i` arguments already printed it appends the rest, comma first unless `i = 0` -/
theorem loop_print (self : TRef → M Str) (as : List TRef) (hself : ∀ a ∈ as, self a = pure a.print)
    (i : Nat) (b : Str) :
    typeRefString.loop1 self as (i : Int) b =
      pure (b ++ match as with
        | [] => []
        | a :: rest => (if i = 0 then a.print else ',' :: a.print) ++ printTail rest) := by
  induction as generalizing i b with
  | nil => simp [typeRefString.loop1]
  | cons a rest ih =>
    rw [typeRefString.loop1, hself a List.mem_cons_self, pure_bind, show ((i : Int) + 1) = ((i + 1 : Nat) : Int) from rfl,
      ih fun x hx => hself x (List.mem_cons_of_mem _ hx)]
    -- behind the first argument the index is positive: what the loop appends there is `printTail`
    cases rest <;> cases i <;> simp [printTail]

mutual
  theorem string_print : (t : TRef) → ∀ fuel, t.depth ≤ fuel → Code.typeRefString fuel t = pure t.print
    | .mk pkg name args, fuel, hf => by
      obtain ⟨f, rfl⟩ := Nat.exists_eq_add_one.mpr (Nat.lt_of_lt_of_le (Nat.succ_pos _) hf)
      have hargs := strings_print args f (Nat.le_of_succ_le_succ hf)
      rw [Code.typeRefString]
      simp only [gt_iff_lt, GoRtLemmas.len_pos, decide_eq_true_eq, List.nil_append]
      cases args with
      | nil => simp [TRef.print]
      | cons a rest =>
        rw [if_pos (List.cons_ne_nil a rest), show (0 : Int) = ((0 : Nat) : Int) from rfl, loop_print _ _ hargs 0]
        simp [TRef.print]
  theorem strings_print : (as : List TRef) → ∀ fuel, depths as ≤ fuel →
      ∀ a ∈ as, Code.typeRefString fuel a = pure a.print
    | [], _, _ => fun _ ha => nomatch ha
    | x :: xs, fuel, hf =>
      have ⟨hx, hxs⟩ := depths_cons_le.mp hf
      List.forall_mem_cons.mpr ⟨string_print x fuel hx, strings_print xs fuel hxs⟩
end

/-- the round trip of the code as it stands: what the translated `String` prints for a well-formed reference, the
    translated `ParseTypeRef` parses back to that reference (`parse_print` of `Props/C15` through both equivalences) -/
theorem code_roundtrip (t : TRef) (h : WF t) :
    ∃ s, Code.typeRefString t.depth t = .ok s ∧ Code.parseTypeRef (s.length + t.depth + 1) s = .ok (some t) := by
  refine ⟨t.print, string_print t t.depth (Nat.le_refl _), ?_⟩
  rw [TrC15b.parseTypeRef_eq _ _ (by omega), parse_print t h _ (by omega)]
  rfl

example : Code.typeRefString 3 (TRef.mk "a/b".toList "Map".toList [TRef.mk "c".toList "K".toList [],
    TRef.mk [] "int".toList []]) = .ok "a/b.Map[c.K,int]".toList := by simp only [String.reduceToList]; rfl

end Gengo.TrC15c

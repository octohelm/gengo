import Gengo.Model.GoRt
import Gengo.Props.Assoc
import Gengo.Props.Order
/-! Facts about the run-time library of the translated code (`Model/GoRt`), stated once for the `Tr` modules; nothing
here depends on regenerated code. -/
namespace Gengo.GoRtLemmas
open Gengo Gengo.Go

/-- `v := m[k]` against `List.lookup` -/
theorem mapGet_lookup {ν : Type} (m : List (Str × ν)) (k : Str) (z : ν) : Go.mapGet m k z = (m.lookup k).getD z := by
  induction m with
  | nil => rfl
  | cons a rest ih =>
    obtain ⟨x, y⟩ := a
    rw [Go.mapGet, List.lookup_cons, ih, BEq.comm]
    cases k == x <;> rfl

/-- `_, ok := m[k]` against `List.lookup` -/
theorem mapHas_lookup {ν : Type} (m : List (Str × ν)) (k : Str) : Go.mapHas m k = (m.lookup k).isSome := by
  induction m with
  | nil => rfl
  | cons a rest ih =>
    obtain ⟨x, y⟩ := a
    rw [Go.mapHas, List.any_cons, ← Go.mapHas, ih, List.lookup_cons, BEq.comm]
    cases k == x <;> rfl

/-- in a map presented without repeated keys, looking up the key of an entry gives its value -/
theorem mapGet_of_mem (m : List (Str × Str)) (hd : (m.map (·.1)).Nodup) (kv : Str × Str) (h : kv ∈ m) :
    Go.mapGet m kv.1 [] = kv.2 := by
  rw [mapGet_lookup, Assoc.lookup_of_mem hd h]; rfl

/-- `m[k] = v` as seen by a lookup -/
theorem lookup_mapSet {ν : Type} (m : List (Str × ν)) (k k' : Str) (v : ν) :
    (Go.mapSet m k v).lookup k' = if k' = k then some v else m.lookup k' := by
  induction m with
  | nil => by_cases h : k' = k <;> simp [Go.mapSet, h, Assoc.lookup_cons_ne]
  | cons kv rest ih =>
    obtain ⟨a, b⟩ := kv
    by_cases ha : a = k
    · subst ha
      by_cases h : k' = a
      · simp [Go.mapSet, h]
      · simp [Go.mapSet, h, Assoc.lookup_cons_ne h]
    · by_cases h : k' = a
      · subst h; simp [Go.mapSet, ha]
      · simp [Go.mapSet, ha, Assoc.lookup_cons_ne h, ih]

/-- for lookups, `m[k] = v` puts the binding in front -/
theorem lookup_mapSet_cons {ν : Type} (m : List (Str × ν)) (k k' : Str) (v : ν) :
    (Go.mapSet m k v).lookup k' = ((k, v) :: m).lookup k' := by
  rw [lookup_mapSet]
  by_cases h : k' = k
  · simp [h]
  · rw [if_neg h, Assoc.lookup_cons_ne h]

/-- a run of assignments, as seen by a lookup: the last one to a key wins, then the map as it was -/
theorem lookup_foldl_mapSet {ν : Type} (es m : List (Str × ν)) (k : Str) :
    (es.foldl (fun m e => Go.mapSet m e.1 e.2) m).lookup k = (es.reverse ++ m).lookup k := by
  induction es generalizing m with
  | nil => rfl
  | cons e es ih =>
    rw [List.foldl_cons, ih, List.reverse_cons, List.append_assoc, List.lookup_append, List.lookup_append,
      lookup_mapSet_cons]
    rfl

/-! `Go.M` is `Except Err`: the monad laws of core (`pure_bind`, `bind_assoc`, `map_pure`) apply as they stand, so a
loop or function proved equal to `pure (…)` rewrites under the `bind` of its caller without unfolding the monad.  A
translated loop returns the variables it assigns, inside a `Ctl` when its body can `return`, and the lemma about it has
one of three shapes: `loop … = pure (model …)` when the caller uses all of them (so in `TrC12`);
`∃ rest, loop … = pure (out, rest)` when some are scratch — a counter, the last class — that the caller drops (`TrC19`,
`TrC03`); `loop … >>= k = pure …`, or `f <$> loop …`, when what the caller does with the `Ctl` belongs to what the model
computes (`TrC15b`, `TrC20`, `TrC06`).  `pure a` is `.ok a` by definition: a statement about the code written with
`.ok`, proved by rewriting with equations written with `pure`, ends in `rfl`.
Two shapes that `do` gives a conditional need refolding before a lemma about the conditional applies. -/

/-- `let v ← if c then x else pure a; k v`, which `do` elaborates with the continuation copied into both branches -/
theorem ite_bind_pure {α β : Type} (c : Prop) [Decidable c] (x : M α) (a : α) (k : α → M β) :
    (if c then x >>= k else k a) = (if c then x else pure a) >>= k := by
  split <;> simp

/-- Go's `a && b` with a `b` that has to be computed first becomes `let t ← if a then (… pure b) else pure false`, and
    `do` copies the `if t then x else y` that follows into both branches -/
theorem ite_and {β : Type} (a b : Bool) (x y : β) :
    (if a = true then (if b = true then x else y) else (if false = true then x else y)) =
      if (a && b) = true then x else y := by
  cases a <;> cases b <;> rfl

/-! `len(l)`; `l[i]`, `l[i] = v` and `l[lo:hi]` at positions that are natural numbers within the length -/

theorem len_eq_zero {l : List α} : Go.len l = 0 ↔ l = [] := by
  rw [Go.len, Int.ofNat_eq_natCast, Int.natCast_eq_zero, List.length_eq_zero_iff]

theorem len_pos {l : List α} : 0 < Go.len l ↔ l ≠ [] := by
  rw [Go.len, Int.ofNat_eq_natCast, Int.natCast_pos, List.length_pos_iff]

/-- `len(l) - 1`, the index of the last element -/
theorem len_sub_one {l : List α} (h : l ≠ []) : Go.len l - 1 = ((l.length - 1 : Nat) : Int) := by
  have := List.length_pos_iff.mpr h
  simp only [Go.len, Int.ofNat_eq_natCast]; omega

theorem len_concat_sub_one (l : List α) (a : α) : Go.len (l ++ [a]) - 1 = l.length := by
  simp [Go.len]

theorem idx_nat {l : List α} {i : Nat} (h : i < l.length) : Go.idx l i = pure l[i] := by
  simp [Go.idx, h, Int.not_lt.mpr (Int.natCast_nonneg i)]

theorem idx_zero (a : α) (as : List α) : Go.idx (a :: as) 0 = pure a := rfl

theorem idx_append_cons (l : List α) (a : α) (r : List α) : Go.idx (l ++ a :: r) l.length = pure a := by
  rw [idx_nat (by simp)]; simp

theorem idx_last {l : List α} (h : l ≠ []) : Go.idx l (Go.len l - 1) = pure (l.getLast h) := by
  rw [len_sub_one h, idx_nat (Nat.sub_one_lt (mt List.length_eq_zero_iff.mp h)), List.getLast_eq_getElem]

theorem setIdx_nat {l : List α} {i : Nat} (h : i < l.length) (v : α) : Go.setIdx l i v = pure (l.set i v) := by
  simp [Go.setIdx, h, Int.not_lt.mpr (Int.natCast_nonneg i)]

theorem setIdx_zero (a v : α) (l : List α) : Go.setIdx (a :: l) 0 v = pure (v :: l) := rfl

theorem setIdx_append_cons (l : List α) (a v : α) (r : List α) :
    Go.setIdx (l ++ a :: r) l.length v = pure (l ++ v :: r) := by
  rw [setIdx_nat (by simp)]; simp

theorem slice_nat {l : List α} {a b : Nat} (h1 : a ≤ b) (h2 : b ≤ l.length) :
    Go.slice l a b = pure ((l.drop a).take (b - a)) := by
  have : ¬ (((a : Int) < 0 ∨ b < a) ∨ l.length < b) := by omega
  simp [Go.slice, Go.len, this]

/-- `l[:i]` -/
theorem slice_to (l : List α) (i : Nat) (h : i ≤ l.length) : Go.slice l 0 (i : Int) = pure (l.take i) :=
  slice_nat (Nat.zero_le i) h

/-- `l[i:]` -/
theorem slice_from (l : List α) (i : Nat) (h : i ≤ l.length) : Go.slice l (i : Int) (Go.len l) = pure (l.drop i) := by
  rw [Go.len, Int.ofNat_eq_natCast, slice_nat h (Nat.le_refl _), List.take_of_length_le (by simp)]

/-- `l[n+1:]`, what follows position `n` -/
theorem slice_after (l : List α) (n : Nat) (h : n < l.length) :
    Go.slice l ((n : Int) + 1) (Go.len l) = pure (l.drop (n + 1)) :=
  slice_from l (n + 1) h

theorem slice_tail (a : α) (as : List α) : Go.slice (a :: as) 1 (Go.len (a :: as)) = pure as :=
  slice_from (a :: as) 1 (Nat.le_add_left ..)

/-- `(a + b)[len(a):]` -/
theorem slice_append_right (a b : List α) : Go.slice (a ++ b) (Go.len a) (Go.len (a ++ b)) = pure b :=
  (slice_from (a ++ b) a.length (by simp)).trans (by rw [List.drop_left])

theorem slice_dropLast {l : List α} (h : l ≠ []) : Go.slice l 0 (Go.len l - 1) = pure l.dropLast := by
  rw [len_sub_one h, List.dropLast_eq_take]
  exact slice_to l _ (Nat.sub_le ..)

/-- `strings.Join` with the empty separator -/
theorem strJoin_nil (vs : List Str) : Go.strJoin vs [] = vs.flatten := by
  induction vs with
  | nil => rfl
  | cons a rest ih => cases rest <;> simp_all [Go.strJoin]

theorem intersperse_cons_flatMap {α : Type} (sep a : α) (l : List α) :
    (a :: l).intersperse sep = a :: l.flatMap fun b => [sep, b] := by
  induction l generalizing a with
  | nil => rfl
  | cons b rest ih => rw [List.intersperse_cons_cons, ih]; rfl

theorem flatten_intersperse_cons {α : Type} (sep a : List α) (l : List (List α)) :
    ((a :: l).intersperse sep).flatten = a ++ (l.map (sep ++ ·)).flatten := by
  rw [intersperse_cons_flatMap, List.flatten_cons, List.flatMap_def, List.flatten_flatten, List.map_map]
  congr 3
  funext b
  simp

theorem length_sortStrs (l : List Str) : (Go.sortStrs l).length = l.length := List.length_mergeSort l

theorem sortStrs_keys {ν : Type} (m : List (Str × ν)) : Go.sortStrs (m.map (·.1)) = (sortBy (·.1) m).map (·.1) :=
  sortBy_map (fun kv : Str × ν => kv.1) (·.1) id m fun _ _ => rfl

/-- ranging over the sorted keys of a map presented without repeated keys and reading the map at each of them is
    ranging over its entries sorted by key -/
theorem sortedKeys_mapGet {β : Type} (m : List (Str × Str)) (hd : (m.map (·.1)).Nodup) (f : Str × Str → β) :
    (Go.sortStrs (m.map (·.1))).map (fun k => f (k, Go.mapGet m k [])) = (sortBy (·.1) m).map f := by
  rw [sortStrs_keys, List.map_map]
  refine List.map_congr_left fun kv h => ?_
  simp only [Function.comp_apply, mapGet_of_mem m hd kv ((mem_sortBy _ m kv).mp h)]

end Gengo.GoRtLemmas

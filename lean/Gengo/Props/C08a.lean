import Gengo.Model.SumFile
import Gengo.Props.Order
namespace Gengo.SumFile

def clean (s : Str) : Prop := s ≠ [] ∧ ∀ c ∈ s, isSpace c = false

theorem clean_no_nl {s : Str} (h : clean s) : '\n' ∉ s := fun hm => absurd (h.2 _ hm) (by decide)

theorem fieldsAux_clean (s : Str) (hs : ∀ c ∈ s, isSpace c = false) (rest cur : Str) :
    fieldsAux (s ++ rest) cur = fieldsAux rest (s.reverse ++ cur) := by
  induction s generalizing cur with
  | nil => rfl
  | cons c cs ih =>
    rw [List.cons_append, fieldsAux, if_neg (by simp [hs c]), ih (fun d hd => hs d (List.mem_cons_of_mem _ hd)),
      List.reverse_cons, List.append_assoc]
    rfl

theorem fieldsAux_word {s : Str} (hs : clean s) {c : Char} (hc : isSpace c = true) (rest : Str) :
    fieldsAux (s ++ c :: rest) [] = s :: fieldsAux rest [] := by
  rw [fieldsAux_clean s hs.2, fieldsAux, if_pos hc, if_neg (by simp [hs.1]), List.append_nil, List.reverse_reverse]

theorem fields_line (k v : Str) (hk : clean k) (hv : clean v) : fields (line (k, v)) = [k, v] := by
  rw [fields, line, fieldsAux_word hk rfl, fieldsAux_word hv rfl]
  rfl

theorem linesAux_clean (s : Str) (hs : '\n' ∉ s) (rest cur : Str) :
    linesAux (s ++ rest) cur = linesAux rest (s.reverse ++ cur) := by
  induction s generalizing cur with
  | nil => rfl
  | cons c cs ih =>
    rw [List.mem_cons, not_or] at hs
    rw [List.cons_append, linesAux, if_neg (by simpa using Ne.symm hs.1), ih hs.2, List.reverse_cons, List.append_assoc]
    rfl

theorem lines_append (s : Str) (hs : '\n' ∉ s) (rest : Str) :
    lines (s ++ '\n' :: rest) = (s ++ ['\n']) :: lines rest := by
  rw [lines, linesAux_clean s hs, linesAux, if_pos (beq_self_eq_true _), List.append_nil, List.reverse_cons,
    List.reverse_reverse]
  rfl

theorem lines_line_append (k v : Str) (hk : clean k) (hv : clean v) (rest : Str) :
    lines (line (k, v) ++ rest) = line (k, v) :: lines rest := by
  have hnl : '\n' ∉ k ++ ' ' :: v := by simp [clean_no_nl hk, clean_no_nl hv]
  simpa [line] using lines_append _ hnl rest

theorem loadEntries_line_append (k v : Str) (hk : clean k) (hv : clean v) (rest : Str) :
    loadEntries (line (k, v) ++ rest) = (k, v) :: loadEntries rest := by
  rw [loadEntries, lines_line_append k v hk hv, List.filterMap_cons, fields_line k v hk hv]
  rfl

theorem loadEntries_lines (es : List (Str × Str)) (h : ∀ e ∈ es, clean e.1 ∧ clean e.2) :
    loadEntries (es.map line).flatten = es := by
  induction es with
  | nil => rfl
  | cons e es ih =>
    have ⟨hk, hv⟩ := h e (List.mem_cons_self ..)
    rw [List.map_cons, List.flatten_cons, loadEntries_line_append e.1 e.2 hk hv,
      ih fun e he => h e (List.mem_cons_of_mem _ he)]

/-- C08 `roundtrip`, entry level: reading the written file yields the written entries, in the
    written (sorted) order, for any number of entries. -/
theorem load_bytes_entries (m : List (Str × Str)) (h : ∀ e ∈ m, clean e.1 ∧ clean e.2) :
    loadEntries (bytes m) = sortBy (·.1) m :=
  loadEntries_lines _ fun e he => h e ((mem_sortBy _ m e).mp he)

/-- pinned code: an empty hash is written as `path SP LF`, read back as "no entry",
    and `Sum` turns both a missing entry and an empty hash into `""` (F17). -/
example : loadEntries (line ("p".toList, [])) = [] := by decide
example : sumOf (some (loadEntries (line ("p".toList, [])))) "p".toList = sumOf (some [("p".toList, [])]) "p".toList := by decide

#print axioms load_bytes_entries
end Gengo.SumFile

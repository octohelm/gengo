import Gengo.Model.Dumper
namespace Gengo.Dumper

def inT : Str := "main.In".toList
def zeroIn : Val := .struct inT [("X".toList, true, .leaf (.basic "int".toList) "int".toList ['0'] true)]

/-- `W{P: &In{}}` — pinned code prints `P:&(),` (F9, checked against the real dumper's output) -/
example :
    (valueLit false false (.struct "main.W".toList [("P".toList, true, .ptr zeroIn)])).show
      = "main.W{\nP:&(),\n}".toList := by
  simp only [String.reduceToList]; decide

/-- repaired code -/
example :
    (valueLit true false (.struct "main.W".toList [("P".toList, true, .ptr zeroIn)])).show
      = "main.W{\nP:&(main.In{}),\n}".toList := by
  simp only [String.reduceToList]; decide

/-- `*string` — pinned: `&("x")`; repaired: the closure idiom typed by the element's type -/
example : (valueLit false false (.ptr (.leaf .string "string".toList "\"x\"".toList false))).show
    = "&(\"x\")".toList := by
  simp only [String.reduceToList]; decide
example : (valueLit true false (.ptr (.leaf .string "string".toList "\"x\"".toList false))).show
    = "func(v string) *string { return &v }(\"x\")".toList := by
  simp only [String.reduceToList]; decide

/-- `*time.Duration` — pinned: typed by kind (`int64`), repaired: by type literal -/
example : (valueLit false false (.ptr (.leaf (.basic "int64".toList) "time.Duration".toList "1000000000".toList false))).show
    = "func(v int64) *int64 { return &v }(1000000000)".toList := by
  simp only [String.reduceToList]; decide
example : (valueLit true false (.ptr (.leaf (.basic "int64".toList) "time.Duration".toList "1000000000".toList false))).show
    = "func(v time.Duration) *time.Duration { return &v }(1000000000)".toList := by
  simp only [String.reduceToList]; decide

end Gengo.Dumper

import Gengo.Props.TrC12
import Gengo.Props.C12a
/-!
Property clauses stated of the code as it stands: each theorem here is a clause of C12 about a definition of
`Gengo.Code` — regenerated from /repo's Go source on every run — obtained from the clause proved of the hand-written
model through the equivalence theorem of `Props/Tr*.lean`.
-/
namespace Gengo.TrCode
open Gengo Gengo.Go Gengo.Code

/-- C12: the key of a tag holds no `=` and no space, and the line is the key, the first `=` or space, and the value — or
    the key alone with an empty value (for the translated `splitKV`) -/
theorem code_splitKV_spec (l : Str) :
    ∃ k v, Code.splitKV l = .ok (k, v) ∧ (∀ c ∈ k, c ≠ '=' ∧ c ≠ ' ') ∧
      (l = k ∧ v = [] ∨ ∃ sep, (sep = '=' ∨ sep = ' ') ∧ l = k ++ sep :: v) := by
  have h := Tags.splitKV_spec l
  exact ⟨(Tags.splitKV l).1, (Tags.splitKV l).2, TrC12.splitKV_eq l, h.1, h.2⟩

/-- C12: every line is classified exactly once by the translated `ExtractCommentTags` — the number of tag values plus
    the number of other lines is the number of lines -/
theorem code_classify_once (markers : List Char) (lines : List Str) :
    ∃ tags others, Code.ExtractCommentTags lines markers = .ok (tags, others) ∧
      Tags.nvalues tags + others.length = lines.length :=
  ⟨_, _, TrC12.extractCommentTags_eq lines markers,
    (Tags.classify_once (if markers.isEmpty then Gengo.Gen.defaultMarkers else markers) lines [] []).trans (Nat.zero_add _)⟩

end Gengo.TrCode

import Gengo.Model.TypeRef
/-!
The index functions of `Model/TypeRef`: `indexOf?` is core's `List.findIdx?`, and `lastIndexOf?` is `indexOf?` on the
reversed string, so what is needed about them comes from core's lemmas on `findIdx?`.
-/
namespace Gengo.TypeRef

theorem indexOf?_eq_findIdx? (c : Char) (l : Str) : indexOf? c l = l.findIdx? (· == c) := by
  induction l with
  | nil => rfl
  | cons x xs ih => rw [indexOf?, List.findIdx?_cons, ih]

theorem indexOf?_lt (c : Char) (l : Str) (k : Nat) (h : indexOf? c l = some k) : k < l.length := by
  rw [indexOf?_eq_findIdx?] at h
  exact (List.findIdx?_eq_some_iff_getElem.mp h).1

theorem indexOf?_get (c : Char) (l : Str) (i : Nat) (h : indexOf? c l = some i) : l[i]? = some c := by
  rw [indexOf?_eq_findIdx?, List.findIdx?_eq_some_iff_getElem] at h
  obtain ⟨hi, hc, -⟩ := h
  rw [List.getElem?_eq_getElem hi, eq_of_beq hc]

theorem indexOf?_take (c : Char) (l : Str) (i : Nat) (h : indexOf? c l = some i) : indexOf? c (l.take i) = none := by
  rw [indexOf?_eq_findIdx?] at h ⊢
  rw [List.findIdx?_take, h, Option.bind_some, Option.guard_eq_none_iff]
  exact decide_eq_false (Nat.lt_irrefl i)

theorem indexOf?_none (c : Char) (l : Str) (h : c ∉ l) : indexOf? c l = none := by
  rw [indexOf?_eq_findIdx?, List.findIdx?_eq_none_iff]
  intro x hx
  exact beq_eq_false_iff_ne.mpr fun e => h (e ▸ hx)

theorem indexOf?_append (c : Char) (l₁ l₂ : Str) (h : c ∉ l₁) :
    indexOf? c (l₁ ++ c :: l₂) = some l₁.length := by
  rw [indexOf?_eq_findIdx?, List.findIdx?_append, ← indexOf?_eq_findIdx?, indexOf?_none c l₁ h,
    List.findIdx?_cons, beq_self_eq_true, if_pos rfl]
  simp

theorem lastIndexOf?_lt (c : Char) (l : Str) (i : Nat) (h : lastIndexOf? c l = some i) : i < l.length := by
  obtain ⟨k, hk, rfl⟩ := Option.map_eq_some_iff.mp h
  have := indexOf?_lt c l.reverse k hk
  rw [List.length_reverse] at this
  omega

theorem lastIndexOf?_get (c : Char) (l : Str) (j : Nat) (h : lastIndexOf? c l = some j) : l[j]? = some c := by
  obtain ⟨k, hk, rfl⟩ := Option.map_eq_some_iff.mp h
  have hlt := indexOf?_lt c l.reverse k hk
  rw [List.length_reverse] at hlt
  rw [← List.getElem?_reverse hlt]
  exact indexOf?_get c l.reverse k hk

theorem lastIndexOf?_none (c : Char) (l : Str) (h : c ∉ l) : lastIndexOf? c l = none := by
  rw [lastIndexOf?, indexOf?_none c l.reverse (mt List.mem_reverse.mp h)]
  rfl

theorem lastIndexOf?_append (c : Char) (l₁ l₂ : Str) (h : c ∉ l₂) :
    lastIndexOf? c (l₁ ++ c :: l₂) = some l₁.length := by
  rw [lastIndexOf?, List.reverse_append, List.reverse_cons, List.append_assoc, List.singleton_append,
    indexOf?_append c _ _ (mt List.mem_reverse.mp h)]
  simp

end Gengo.TypeRef

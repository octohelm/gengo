import Gengo.Props.TrC06
import Gengo.Props.C06a
/-!
Property clauses stated of the code as it stands: each theorem here is a clause of C06 and C04 about a definition of
`Gengo.Code` — regenerated from /repo's Go source on every run — obtained from the clause proved of the hand-written
model through the equivalence theorem of `Props/Tr*.lean`.
-/
namespace Gengo.TrCode
open Gengo Gengo.Go Gengo.Code

/-- C06 / C04: the translated `IsGeneratorEnabled` computes the order-free rule of the statement, whatever order the tag
    map is presented in -/
theorem code_enabled_spec (gen : Str) (m : List (Str × List Str)) (hd : Tags.DistinctKeys m) :
    Code.IsGeneratorEnabled gen m = .ok (Tags.enabledSpec gen m) := by
  rw [TrC06.isGeneratorEnabled_eq, Tags.enabled_spec gen m hd]; rfl

theorem code_enabled_perm (gen : Str) {m₁ m₂ : List (Str × List Str)} (h : m₁.Perm m₂) (hd : Tags.DistinctKeys m₁) :
    Code.IsGeneratorEnabled gen m₁ = Code.IsGeneratorEnabled gen m₂ := by
  rw [TrC06.isGeneratorEnabled_eq, TrC06.isGeneratorEnabled_eq, Tags.enabled_perm gen h hd]

end Gengo.TrCode

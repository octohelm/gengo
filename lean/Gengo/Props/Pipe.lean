import Gengo.Model.Pipeline
import Gengo.Props.Order
/-!
What each loop of `Model/Pipeline` computes: a step equation for `dispatch` and `goPkgs`, a closed form for
`runDefers` and `runGen`, for `writes` and `goPkgs` the two ways a run can end (all items done, or stopped at an item
that fails), and what each function looks at in its arguments.  C02 `execute_sum_last`, at the end, is the first
consequence.
-/
namespace Gengo.Pipeline
open Gengo.Tags

/-- which method, if any, `doGenerate` calls for a table entry -/
def handler (a : Args) (p : Pkg) (g : Gen) (t : TypeObj) : Option (g.σ → Str → TypeObj → g.σ × Reaction) :=
  let en := isEnabled g.name (merge3 a.globals p.pkgTags t.tags)
  match t.kind with
  | .named => if en then some g.onType else none
  | .alias => if en then g.onAlias else none
  | _ => none

/-- one round of `doGenerate`: the entry is skipped, or the method `handler` selects is called.  `handler` does not
    say which arm selected the method, so the model's flag `isNamed` appears as `decide (t.kind = .named)`. -/
theorem dispatch_cons (a : Args) (p : Pkg) (g : Gen) (t : TypeObj) (ts : List TypeObj) (s : GState g) :
    dispatch a p g (t :: ts) s =
      match handler a p g t with
      | none => dispatch a p g ts s
      | some f =>
        if (f s.st p.path t).2.verdict == .fail then .error (.generate g.name p.path)
        else dispatch a p g ts
          { st := (f s.st p.path t).1, body := s.body ++ (f s.st p.path t).2.renders,
            defers := s.defers ++ (f s.st p.path t).2.defers,
            ignore := s.ignore || (decide (t.kind = .named) && (f s.st p.path t).2.verdict == .ignore),
            calls := s.calls ++ [(t.name, !decide (t.kind = .named))] } := by
  rw [dispatch, handler]
  cases t.kind
  · cases isEnabled g.name (merge3 a.globals p.pkgTags t.tags) <;> rfl
  · cases isEnabled g.name (merge3 a.globals p.pkgTags t.tags)
    · rfl
    · cases g.onAlias <;> rfl
  · rfl
  · rfl

theorem handler_some {a : Args} {p : Pkg} {g : Gen} {t : TypeObj} {f} (h : handler a p g t = some f) :
    f = g.onType ∨ g.onAlias = some f := by
  simp only [handler] at h
  split at h
  · exact .inl (Option.some.inj (Option.ite_none_right_eq_some.mp h).2).symm
  · exact .inr (Option.ite_none_right_eq_some.mp h).2
  · cases h

/-- `dispatch` looks at the arguments and the package through `handler` and the package path, at a table entry
    through its name, its kind and what the selected method makes of it -/
theorem dispatch_congr {a a' : Args} {p q : Pkg} {g : Gen} (hpath : q.path = p.path) {sh : TypeObj → TypeObj}
    {ts : List TypeObj} {s : GState g}
    (h : ∀ t ∈ ts, (sh t).name = t.name ∧ (sh t).kind = t.kind ∧ handler a' q g (sh t) = handler a p g t ∧
      ∀ f, handler a p g t = some f → ∀ st, f st p.path (sh t) = f st p.path t) :
    dispatch a' q g (ts.map sh) s = dispatch a p g ts s := by
  induction ts generalizing s with
  | nil => rfl
  | cons t ts ih =>
    obtain ⟨hn, hk, hh, hf⟩ := h t List.mem_cons_self
    have ih' := fun s => ih (s := s) fun t ht => h t (List.mem_cons_of_mem _ ht)
    rw [List.map_cons, dispatch_cons, dispatch_cons, hh, hpath, hn, hk]
    cases hh' : handler a p g t with
    | none => exact ih' s
    | some f => simp only [hf f hh', ih']

theorem runDefers_eq (p : Pkg) (g : Gen) (ds : List DeferCb) (body : List Str) :
    runDefers p g ds body =
      if ds.any (·.fails) then .error (.deferred g.name p.path) else .ok (body ++ ds.flatMap (·.renders)) := by
  induction ds generalizing body with
  | nil => simp [runDefers]
  | cons d ds ih =>
    rw [runDefers, ih, List.any_cons, List.flatMap_cons, List.append_assoc]
    cases d.fails <;> rfl

theorem runGen_eq (a : Args) (p : Pkg) (g : Gen) :
    runGen a p g =
      match dispatch a p g (sortedTypes p.types) ⟨g.new, [], [], false, []⟩ with
      | .error e => .error e
      | .ok s =>
        if s.defers.any (·.fails) then .error (.deferred g.name p.path)
        else .ok (if (s.body ++ s.defers.flatMap (·.renders)).flatten.isEmpty && !s.ignore then none
                  else some (g.name, (s.body ++ s.defers.flatMap (·.renders)).flatten)) := by
  unfold runGen
  cases dispatch a p g (sortedTypes p.types) ⟨g.new, [], [], false, []⟩ with
  | error e => rfl
  | ok s =>
    dsimp only [bind, Except.bind]
    rw [runDefers_eq]
    cases s.defers.any (·.fails)
    · exact (apply_ite Except.ok _ _ _).symm
    · rfl

theorem runGen_congr {a a' : Args} {p q : Pkg} {g : Gen} (hpath : q.path = p.path)
    (h : ∀ s, dispatch a' q g (sortedTypes q.types) s = dispatch a p g (sortedTypes p.types) s) :
    runGen a' q g = runGen a p g := by
  rw [runGen_eq, runGen_eq, h, hpath]

theorem gather_congr {a a' : Args} {p q : Pkg} {gens : List Gen} {acc : List (Str × Str)}
    (h : ∀ g ∈ gens, runGen a' q g = runGen a p g) : gather a' q gens acc = gather a p gens acc := by
  induction gens generalizing acc with
  | nil => rfl
  | cons g gs ih =>
    have ih' := fun acc => ih (acc := acc) fun g hg => h g (List.mem_cons_of_mem _ hg)
    simp only [gather, h g List.mem_cons_self, ih']

theorem filter_ne_filter_not_contains {α : Type} [BEq α] [LawfulBEq α] [DecidableEq α] (x : α) (xs l : List α) :
    ((l.filter (· ≠ x)).filter fun f => !xs.contains f) = l.filter fun f => !(x :: xs).contains f := by
  rw [List.filter_filter]
  congr 1
  funext f
  rw [List.contains_cons, Bool.not_or, Bool.and_comm]
  by_cases h : f = x <;> simp [h]

theorem writes_congr {parses : Str → Bool} {a a' : Args} {p q : Pkg} (hb : a'.base = a.base) (hd : q.dir = p.dir)
    {ws : List (Str × Str)} {stale : List Str} {eff : List Effect} :
    writes parses a' q ws stale eff = writes parses a p ws stale eff := by
  induction ws generalizing stale eff with
  | nil => rw [writes, writes, hd]
  | cons w ws ih => simp only [writes, hb, hd, ih]

/-- The two ways the write phase ends.  All of `ws` parses: every non-empty text has been written and the stale
    files that no entry of `ws` names have been removed.  Or the loop stops with a syntax error at some `w`, where
    `ws = pre ++ w :: post`: `pre` has been written, the error names the file of `w`, nothing is removed. -/
theorem writes_cases (parses : Str → Bool) (a : Args) (p : Pkg) (ws : List (Str × Str)) (stale : List Str)
    (eff : List Effect) :
    writes parses a p ws stale eff =
      (eff ++ ((ws.filter fun w => !w.2.isEmpty).map fun w => Effect.write p.dir (fileName a.base w.1) w.1 w.2)
           ++ ((stale.filter fun f => !(ws.map fun w => fileName a.base w.1).contains f).map (Effect.remove p.dir ·)),
        none) ∨
    ∃ pre w post, ws = pre ++ w :: post ∧
      writes parses a p ws stale eff =
        (eff ++ ((pre.filter fun w => !w.2.isEmpty).map fun w => Effect.write p.dir (fileName a.base w.1) w.1 w.2),
          some (.syntax p.dir (fileName a.base w.1))) := by
  fun_induction writes parses a p ws stale eff with
  | case1 stale =>
    have : stale.filter (fun f => !([] : List Str).contains f) = stale := List.filter_eq_self.mpr fun _ _ => rfl
    exact .inl (by rw [List.map_nil, this, List.filter_nil, List.map_nil, List.append_nil])
  | case2 gn text rest stale eff fn he ih =>
    -- an empty text: nothing is written, the loop goes on
    rw [List.map_cons, ← filter_ne_filter_not_contains, List.filter_cons_of_neg (by simp [he])]
    exact ih.imp_right fun ⟨pre, w, post, hws, h⟩ =>
      ⟨_ :: pre, w, post, congrArg _ hws, by rw [h, List.filter_cons_of_neg (by simp [he])]⟩
  | case3 gn text rest stale eff fn he hp ih =>
    -- a text that parses: it is written, the loop goes on
    simp only [List.append_assoc, List.singleton_append] at ih
    rw [List.map_cons, ← filter_ne_filter_not_contains, List.filter_cons_of_pos (by simp [he]), List.map_cons,
      List.append_assoc]
    exact ih.imp_right fun ⟨pre, w, post, hws, h⟩ =>
      ⟨_ :: pre, w, post, congrArg _ hws, by rw [h, List.filter_cons_of_pos (by simp [he])]; rfl⟩
  | case4 _ _ rest =>
    exact .inr ⟨[], _, rest, rfl, by rw [List.filter_nil, List.map_nil, List.append_nil]⟩

/-- what a package run can do, whether or not it fails: write the file of one of its generators, remove one of
    the package's files whose name starts with `<base>.` -/
theorem pkgExecute_mem {parses : Str → Bool} {order} {a : Args} {p : Pkg} {gens : List Gen} {e : Effect}
    (he : e ∈ (pkgExecute parses order a p gens).1) :
    (∃ gn text, e = .write p.dir (fileName a.base gn) gn text) ∨
    ∃ f, (a.base ++ ['.']).isPrefixOf f = true ∧ e = .remove p.dir f := by
  unfold pkgExecute at he
  cases hg : gather a p gens [] with
  | error _ => rw [hg] at he; cases he
  | ok ws =>
    rw [hg] at he
    rcases writes_cases parses a p (order ws) (p.goFiles.filter fun f => (a.base ++ ['.']).isPrefixOf f) []
      with h | ⟨pre, w, post, _, h⟩ <;>
      simp only [h, List.nil_append, List.mem_append, List.mem_map, List.mem_filter] at he
    · rcases he with ⟨w, _, rfl⟩ | ⟨f, ⟨⟨_, hf⟩, _⟩, rfl⟩
      · exact .inl ⟨_, _, rfl⟩
      · exact .inr ⟨f, hf, rfl⟩
    · obtain ⟨w, _, rfl⟩ := he
      exact .inl ⟨_, _, rfl⟩

theorem pkgExecute_congr {parses : Str → Bool} {order} {a a' : Args} {p q : Pkg} {gens : List Gen}
    (hb : a'.base = a.base) (hdir : q.dir = p.dir) (hfiles : q.goFiles = p.goFiles)
    (h : ∀ g ∈ gens, runGen a' q g = runGen a p g) :
    pkgExecute parses order a' q gens = pkgExecute parses order a p gens := by
  unfold pkgExecute
  rw [gather_congr h, hb, hfiles]
  cases gather a p gens [] with
  | error e => rfl
  | ok ws => exact writes_congr hb hdir

/-- the packages `Execute` runs `pkgExecute` for: asked for directly (any, under `All`) and changed -/
def processed (a : Args) (prev : Option (List (Str × Str))) (p : Pkg) : Bool :=
  (a.all || p.direct) && pkgChanged a prev p

theorem goPkgs_cons (parses : Str → Bool) (order) (a : Args) (root : Str) (prev) (all : List Pkg)
    (gens : List Gen) (p : Pkg) (ps : List Pkg) (eff : List Effect) :
    goPkgs parses order a root prev all gens (p :: ps) eff =
      if processed a prev p then
        match pkgExecute parses order a p gens with
        | (e, some err) => (eff ++ e, some err)
        | (e, none) => goPkgs parses order a root prev all gens ps (eff ++ e)
      else goPkgs parses order a root prev all gens ps eff := by
  rw [goPkgs, processed, ← Bool.not_or]
  cases a.all || p.direct <;> cases pkgChanged a prev p <;> rfl

/-- The two ways the package loop ends.  Every processed package succeeds: the trace is their traces in order,
    then the sum file under `All`.  Or the loop stops at a `p` that fails, where the processed packages are
    `pre ++ p :: post`: the trace is the traces of `pre`, then what `p` did before it failed; nothing of `post`, no
    sum file. -/
theorem goPkgs_cases (parses : Str → Bool) (order) (a : Args) (root : Str) (prev) (all : List Pkg)
    (gens : List Gen) (ps : List Pkg) (eff : List Effect) :
    goPkgs parses order a root prev all gens ps eff =
      (eff ++ ((ps.filter (processed a prev)).flatMap fun p => (pkgExecute parses order a p gens).1) ++
        (if a.all then [Effect.writeSum root (SumFile.bytes (all.map fun p => (p.path, p.hash)))] else []), none) ∨
    ∃ pre p post err, ps.filter (processed a prev) = pre ++ p :: post ∧
      (pkgExecute parses order a p gens).2 = some err ∧
      goPkgs parses order a root prev all gens ps eff =
        (eff ++ (pre.flatMap fun q => (pkgExecute parses order a q gens).1) ++ (pkgExecute parses order a p gens).1,
          some err) := by
  induction ps generalizing eff with
  | nil =>
    left
    rw [goPkgs]
    split <;> simp
  | cons p ps ih =>
    rw [goPkgs_cons, List.filter_cons]
    split
    · rcases hx : pkgExecute parses order a p gens with ⟨e, _ | err⟩
      · -- `p` succeeds: its trace is appended, the loop goes on
        rcases ih (eff ++ e) with h | ⟨pre, q, post, err, h1, h2, h3⟩
        · left
          simp only [h, List.flatMap_cons, hx, List.append_assoc]
        · refine .inr ⟨p :: pre, q, post, err, congrArg _ h1, h2, ?_⟩
          simp only [h3, List.flatMap_cons, hx, List.append_assoc]
      · refine .inr ⟨[], p, _, err, rfl, ?_, ?_⟩ <;> simp [hx]
    · exact ih eff

def sumData (all : List Pkg) : Str := SumFile.bytes (all.map fun p => (p.path, p.hash))

/-- The package loop looks at the arguments and a package through `all`, `processed` and `pkgExecute`, at the
    universe through the bytes of the sum file. -/
theorem goPkgs_congr {parses : Str → Bool} {order} {a a' : Args} {root : Str} {prev} {all all' : List Pkg}
    {gens : List Gen} (hall : a'.all = a.all) (hsum : sumData all' = sumData all) {sh : Pkg → Pkg} {ps : List Pkg}
    (h : ∀ p ∈ ps, processed a' prev (sh p) = processed a prev p ∧
      pkgExecute parses order a' (sh p) gens = pkgExecute parses order a p gens) {eff : List Effect} :
    goPkgs parses order a' root prev all' gens (ps.map sh) eff = goPkgs parses order a root prev all gens ps eff := by
  induction ps generalizing eff with
  | nil => unfold sumData at hsum; rw [List.map_nil, goPkgs, goPkgs, hall, hsum]
  | cons p ps ih =>
    have ih' := fun eff => ih (eff := eff) fun q hq => h q (List.mem_cons_of_mem _ hq)
    simp only [List.map_cons, goPkgs_cons, h p List.mem_cons_self, ih']

/-- The run looks at a package through its path, hash, `direct` flag and `pkgExecute`, at the arguments through
    `all`, `force`, `emptyHashChanged` and `pkgExecute`. -/
theorem execute_congr {parses : Str → Bool} {order} {a a' : Args} {root : Str} {prev} {gens : List Gen}
    {pkgs : List Pkg} {sh : Pkg → Pkg}
    (hall : a'.all = a.all) (hforce : a'.force = a.force) (hempty : a'.emptyHashChanged = a.emptyHashChanged)
    (h : ∀ p ∈ pkgs, (sh p).path = p.path ∧ (sh p).hash = p.hash ∧ (sh p).direct = p.direct ∧
      pkgExecute parses order a' (sh p) gens = pkgExecute parses order a p gens) :
    execute parses order a' root prev (pkgs.map sh) gens = execute parses order a root prev pkgs gens := by
  unfold execute sortedPkgs
  rw [sortBy_map sh (·.path) (·.path) pkgs fun p hp => (h p hp).1, hall]
  refine goPkgs_congr hall ?_ fun p hp => ?_
  · unfold sumData
    rw [List.map_map]
    congr 1
    exact List.map_congr_left fun p hp => by rw [Function.comp, (h p hp).1, (h p hp).2.1]
  · obtain ⟨hpath, hhash, hdirect, hex⟩ := h p ((mem_sortBy _ _ _).mp hp)
    exact ⟨by unfold processed pkgChanged; rw [hall, hforce, hempty, hpath, hhash, hdirect], hex⟩

def Effect.isSum : Effect → Bool
  | .writeSum .. => true
  | _ => false

theorem pkgExecute_no_sum {parses : Str → Bool} {order} {a : Args} {p : Pkg} {gens : List Gen} :
    ∀ e ∈ (pkgExecute parses order a p gens).1, e.isSum = false := by
  intro e he
  rcases pkgExecute_mem he with ⟨_, _, rfl⟩ | ⟨_, _, rfl⟩ <;> rfl

/-- C02 `sum_last` (⇒ `fail_no_sum`, `crash_keeps_sum`): for every universe, argument set,
    generator set, parse oracle and visiting order, a `writeSum` effect can only be the very
    last effect of the trace, and then the run returned no error. -/
theorem execute_sum_last (parses : Str → Bool) (order) (a : Args) (root : Str) (prev) (pkgs : List Pkg)
    (gens : List Gen) (pre : List Effect) (e : Effect) (post : List Effect)
    (h : (execute parses order a root prev pkgs gens).1 = pre ++ e :: post) (he : e.isSum = true) :
    post = [] ∧ (execute parses order a root prev pkgs gens).2 = none := by
  unfold execute at h ⊢
  have hp : ∀ p, e ∉ (pkgExecute parses order a p gens).1 := fun p hm => by
    rw [pkgExecute_no_sum e hm] at he; cases he
  have hl : ∀ l : List Pkg, e ∉ l.flatMap fun p => (pkgExecute parses order a p gens).1 := fun l hm =>
    have ⟨p, _, hm⟩ := List.mem_flatMap.mp hm
    hp p hm
  have hm : e ∈ pre ++ e :: post := List.mem_append_right _ List.mem_cons_self
  rcases goPkgs_cases parses order a root (if a.all then prev else none) pkgs gens (sortedPkgs pkgs) []
    with hc | ⟨pre', p, post', err, _, _, hc⟩ <;> rw [hc] at h ⊢ <;> rw [List.nil_append] at h
  · split at h
    · -- the run succeeded under `All`, the sum file is the last effect: were `post` not empty, `e` would be an
      -- effect of a package
      rcases List.eq_nil_or_concat post with rfl | ⟨post', x, rfl⟩
      · exact ⟨rfl, rfl⟩
      · rw [List.concat_eq_append, ← List.cons_append, ← List.append_assoc] at h
        exact absurd ((List.append_inj' h rfl).1 ▸ List.mem_append_right pre List.mem_cons_self) (hl _)
    · rw [List.append_nil] at h
      exact absurd (h ▸ hm) (hl _)
  · -- the run failed: the trace holds effects of packages only
    rw [← h, List.mem_append] at hm
    exact (hm.elim (hl _) (hp p)).elim

#print axioms execute_sum_last
end Gengo.Pipeline

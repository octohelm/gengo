import Gengo.Gen.Code.C19
import Gengo.Model.Camel
import Gengo.Props.C19
import Gengo.Props.GoRtLemmas
/-!
C19, tie by translation: `Gengo.Code.Split`, regenerated by `go2lean` from `pkg/camelcase/camelcase.go` on every run
(three loops: grouping by class with in-place append to the last group, the index-based upper→lower fix-up that
rewrites `runes[i]` and `runes[i+1]` in place, the filter), computes what the hand-written list-recursive model
`Camel.split` computes; with `split_total_lossless` of `Props/C19` the *translated code* is total (no index out of
range, the loop fuel suffices), its words are non-empty and their concatenation is the input — for every choice of the
three Unicode predicates.
-/
namespace Gengo.TrC19
open Gengo Gengo.Go Gengo.Code Gengo.Camel

def preds (p : Go.Preds) : Camel.Preds := ⟨p.isLower, p.isUpper, p.isDigit⟩

/-- the values of `RuneOther … RuneDigit` (an `iota` block of camelcase.go), which the translation writes as literals -/
def cInt : Class → Int
  | .other => 0
  | .lower => 1
  | .upper => 2
  | .digit => 3

theorem joins_int (a b : Class) :
    ((cInt a == cInt b) || ((cInt a == 3) && ((cInt b == 2) || (cInt b == 1)))) = joins a b := by
  cases a <;> cases b <;> decide

theorem classOf_int (p : Go.Preds) (r : Char) :
    (if p.isLower r = true then (1 : Int) else if p.isUpper r = true then 2 else if p.isDigit r = true then 3 else 0)
      = cInt (classOf (preds p) r) := by
  simp only [classOf, apply_ite cInt]
  rfl

theorem loop1_eq (p : Go.Preds) (rs : List Char) (gs : List (List Char)) (last : Class) (c : Int)
    (out : List (List Char)) (h : group (preds p) true rs gs last = some out) :
    ∃ lc c', Split.loop1 p rs gs (cInt last) c = pure (out, lc, c') := by
  induction rs generalizing gs last c with
  | nil => cases h; exact ⟨_, _, rfl⟩
  | cons r rs ih =>
    rw [group] at h
    rw [Split.loop1]
    simp only [classOf_int, joins_int]
    rcases List.eq_nil_or_concat gs with rfl | ⟨init, g, rfl⟩
    · exact ih _ _ _ h
    · rw [List.concat_eq_append] at h ⊢
      rw [decide_eq_true (GoRtLemmas.len_pos.mpr (by simp)), Bool.true_and]
      have hne : (!true || !(init ++ [g]).isEmpty) = true := by simp
      rw [hne, Bool.true_and, appendToLast_concat] at h
      split at h
      · next hj =>
        rw [if_pos hj, GoRtLemmas.len_concat_sub_one, GoRtLemmas.idx_append_cons, pure_bind, GoRtLemmas.setIdx_append_cons, pure_bind]
        exact ih _ _ _ h
      · next hj => rw [if_neg hj]; exact ih _ _ _ h

theorem idx_at1 (done : List α) (x y : α) (rest : List α) :
    Go.idx (done ++ x :: y :: rest) ((done.length : Int) + 1) = pure y := by
  simpa using GoRtLemmas.idx_append_cons (done ++ [x]) y rest

theorem setIdx_at1 (done : List α) (x y v : α) (rest : List α) :
    Go.setIdx (done ++ x :: y :: rest) ((done.length : Int) + 1) v = pure (done ++ x :: v :: rest) := by
  simpa using GoRtLemmas.setIdx_append_cons (done ++ [x]) y v rest

theorem loop2_eq (p : Go.Preds) (rest : List (List Char)) (done : List (List Char)) (cur : List Char)
    (fuel : Nat) (hf : rest.length + 1 ≤ fuel) (hc : cur ≠ []) (hne : AllNonempty rest)
    (out : List (List Char)) (h : fixupAux (preds p) cur rest = some out) :
    ∃ i', Split.loop2 p fuel (done ++ cur :: rest) (done.length : Int) = pure (done ++ out, i') := by
  induction rest generalizing done cur fuel out with
  | nil =>
    obtain ⟨f, rfl⟩ := Nat.exists_eq_add_one.mpr hf
    cases h
    exact ⟨_, by rw [Split.loop2, if_neg (by simp [Go.len])]⟩
  | cons b rest ih =>
    obtain ⟨f, rfl⟩ := Nat.exists_eq_add_one.mpr (Nat.lt_of_lt_of_le (Nat.succ_pos _) hf)
    obtain ⟨a0, as, rfl⟩ := List.exists_cons_of_ne_nil hc
    obtain ⟨hb, hrest⟩ := allNonempty_cons.mp hne
    obtain ⟨b0, bs, rfl⟩ := List.exists_cons_of_ne_nil hb
    -- whatever `y` has been left at index `i`, the loop goes on at `i + 1`
    have next : ∀ (y cur' : List Char), cur' ≠ [] → (fixupAux (preds p) cur' rest).map (y :: ·) = some out →
        ∃ i', Split.loop2 p f (done ++ y :: cur' :: rest) ((done.length : Int) + 1) = pure (done ++ out, i') := by
      intro y cur' hc' h
      obtain ⟨out', ho, rfl⟩ := Option.map_eq_some_iff.mp h
      have hpos : ((done.length : Int) + 1) = ((done ++ [y]).length : Int) := by simp
      rw [List.append_cons done, List.append_cons done y out', hpos]
      exact ih _ _ f (Nat.le_of_succ_le_succ hf) hc' hrest out' ho
    rw [Split.loop2, if_pos (by simp [Go.len]; omega)]
    -- the reads of `runes[i]`, `runes[i+1]` and, behind the test, the two assignments
    simp only [GoRtLemmas.idx_append_cons, GoRtLemmas.idx_zero, idx_at1, pure_bind, GoRtLemmas.idx_last hc, setIdx_at1,
      GoRtLemmas.slice_dropLast hc, GoRtLemmas.setIdx_append_cons, List.singleton_append]
    rw [GoRtLemmas.ite_and]
    rw [fixupAux] at h
    simp only [List.head?_cons, List.getLast?_eq_some_getLast hc] at h
    split at h
    · next hu =>
      rw [if_pos (show (p.isUpper a0 && p.isLower b0) = true from hu)]
      exact next _ _ (List.cons_ne_nil _ _) h
    · next hu =>
      rw [if_neg (show ¬ (p.isUpper a0 && p.isLower b0) = true from hu)]
      exact next _ _ (List.cons_ne_nil _ _) h

theorem loop3_eq (p : Go.Preds) (gs : List (List Char)) (acc : List Str) :
    Split.loop3 p gs acc = pure (acc ++ gs.filter (fun g => !g.isEmpty)) := by
  induction gs generalizing acc with
  | nil => simp [Split.loop3]
  | cons g gs ih => cases g <;> simp [Split.loop3, ih, GoRtLemmas.len_pos]

theorem split_eq (p : Go.Preds) (s : List Char) (ws : List (List Char)) (h : Camel.split (preds p) true s = some ws) :
    Code.Split p s = pure ws := by
  rw [Camel.split] at h
  split at h
  · cases h
  next gs hg =>
  obtain ⟨out, ho, rfl⟩ := Option.map_eq_some_iff.mp h
  obtain ⟨lc, c', h1⟩ := loop1_eq p s [] .other 0 gs hg
  have hne : AllNonempty gs := (group_spec (preds p) true s [] .other (fun _ hx => nomatch hx) hg).2
  have h2 : ∃ i', Split.loop2 p (gs.length + 1) gs 0 = pure (out, i') := by
    cases gs with
    | nil =>
      rw [fixup, Option.some.injEq] at ho
      subst ho
      exact ⟨0, by simp [Split.loop2, Go.len]⟩
    | cons a rest =>
      obtain ⟨ha, hrest⟩ := allNonempty_cons.mp hne
      exact loop2_eq p rest [] a _ (Nat.le_succ _) ha hrest out ho
  obtain ⟨i', h2⟩ := h2
  simp only [Code.Split, Bool.not_true, Bool.false_eq_true, if_false, cInt] at h1 ⊢
  simp only [h1, h2, pure_bind, loop3_eq, List.nil_append]

/-- C19 for the code as it stands: total (no index out of range, fuel suffices), words non-empty, lossless -/
theorem code_split_total_lossless (p : Go.Preds) (s : List Char) :
    ∃ ws, Code.Split p s = .ok ws ∧ ws.flatten = s ∧ ∀ w ∈ ws, w ≠ [] := by
  obtain ⟨ws, h, hf, hn⟩ := split_total_lossless (preds p) s
  exact ⟨ws, split_eq p s ws h, hf, hn⟩

example : Code.Split ⟨Char.isLower, Char.isUpper, Char.isDigit⟩ "PDFLoader9".toList
    = .ok ["PDF".toList, "Loader9".toList] := by simp only [String.reduceToList]; rfl

end Gengo.TrC19

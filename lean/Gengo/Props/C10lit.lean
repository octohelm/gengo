import Gengo.Model.Dumper
/-!
What the value printer prints, constructor by constructor: the equations that the proofs about the
repaired printer (`fixed = true`: C10b validity, C10c meaning, C16c doc literals) rewrite with instead of
unfolding `valueLit`.
-/
namespace Gengo.Dumper

/-- only the hole prints as the empty text -/
theorem Expr.show_eq_nil {e : Expr} : e.show = [] ↔ e = .raw [] := by
  cases e <;> simp [Expr.show]

theorem valueLit_struct (fixed sub : Bool) (ty : Str) (fs : List (Str × Bool × Val)) :
    valueLit fixed sub (.struct ty fs) =
      if sub = true ∧ structFields fixed fs = [] then .raw [] else .comp ty (structFields fixed fs) := by
  simp [valueLit]

theorem valueLit_map (sub : Bool) (ty : Str) (es : List (Val × Val)) :
    valueLit true sub (.map ty es) =
      .comp ty ((sortBy (·.1) (mapEntries true false es)).map fun kv => (some kv.1, kv.2)) := by
  simp [valueLit]

theorem valueLit_ptr_leaf (sub : Bool) {k : Kind} (hk : (∃ n, k = .basic n) ∨ k = .string) (ty lit : Str) (e : Bool) :
    valueLit true sub (.ptr (.leaf k ty lit e)) = .closure ty (.raw lit) := by
  rcases hk with ⟨n, rfl⟩ | rfl <;> simp [valueLit, Val.kind, Val.tyText]

theorem valueLit_ptr_comp (sub : Bool) {v : Val} (h : ∃ ty es, valueLit true false v = .comp ty es) :
    valueLit true sub (.ptr v) = .addr (valueLit true false v) := by
  obtain ⟨ty, es, h⟩ := h
  -- pointer, struct, map, sequence: by computation; a leaf, `nil` and an interface value print no composite literal
  cases v <;> first | rfl | cases h

theorem structFields_cons (fixed : Bool) (n : Str) (ex : Bool) (v : Val) (rest : List (Str × Bool × Val)) :
    structFields fixed ((n, ex, v) :: rest) =
      if ex = true ∧ v.isEmpty = false ∧ (valueLit fixed true v).show ≠ [] then
        (some n, valueLit fixed true v) :: structFields fixed rest
      else structFields fixed rest := by
  rw [structFields]
  cases ex <;> cases v.isEmpty <;> simp

theorem structFields_key_ne {fixed : Bool} {fs : List (Str × Bool × Val)} {n : Str} (hn : n ∉ fs.map (·.1)) :
    ∀ x ∈ structFields fixed fs, x.1 ≠ some n := by
  induction fs with
  | nil => nofun
  | cons f rest ih =>
    obtain ⟨n', ex, v⟩ := f
    rw [List.map_cons, List.mem_cons, not_or] at hn
    obtain ⟨hne, hrest⟩ := hn
    intro x hx
    rw [structFields_cons] at hx
    split at hx
    · rcases List.mem_cons.mp hx with rfl | hx
      · exact fun h => hne (Option.some.inj h).symm
      · exact ih hrest x hx
    · exact ih hrest x hx

theorem seqElems_eq_map (fixed : Bool) (es : List Val) :
    seqElems fixed es = es.map fun v => (none, valueLit fixed false v) := by
  induction es with
  | nil => rfl
  | cons v es ih => rw [seqElems, ih, List.map_cons]

end Gengo.Dumper

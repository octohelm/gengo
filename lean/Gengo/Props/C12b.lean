import Gengo.Model.Layout
import Gengo.Props.Assoc
/-!
C12, the comment index (`Model/Layout`): in every layout the repaired walk gives each declaration the group that ends
directly above it and its own trailing comment (`doc_correct`).  A row writes only to its first and its last line
(`visit_lookup`); so the rows below never change what is recorded above (`build_frame`), and from the current line on
nothing is recorded yet (`Fresh`).  For its last line a row leaves the group that a declaration directly below is to
get (`visit_last`).
-/
namespace Gengo.Layout

/-- pinned code: the trailing comment of the previous line is reported as documentation (F11) -/
example :
    let rows := [Row.decl 1 (some ['x']), Row.decl 1 none]
    docAt (build false rows 1 ⟨[], []⟩) 2 = [['x']] := by decide

/-- repaired code on the same layout -/
example :
    let rows := [Row.decl 1 (some ['x']), Row.decl 1 none]
    docAt (build true rows 1 ⟨[], []⟩) 2 = [] ∧ commentAt (build true rows 1 ⟨[], []⟩) 1 = [['x']] := by decide

theorem lookup_put_ne {m : List (Nat × List Str)} {k k' : Nat} {v : List Str} (h : k' ≠ k) :
    (put m k v).lookup k' = m.lookup k' := by
  unfold put
  split
  · rfl
  · rw [List.lookup_append, Assoc.lookup_cons_ne h, List.lookup_nil, Option.or_none]

theorem lookup_put_self {m : List (Nat × List Str)} {k : Nat} {v : List Str} (h : m.lookup k = none) :
    (put m k v).lookup k = some v := by
  simp [put, h, List.lookup_append]

theorem afterDecl_lead (idx : Idx) (ln h : Nat) (tr : Option Str) :
    (afterDecl true idx ln h tr).lead = idx.lead := by cases tr <;> rfl

theorem afterDecl_trail (idx : Idx) (ln h : Nat) (tr : Option Str) :
    (afterDecl true idx ln h tr).trail = put idx.trail ln ((tr.map ([·])).getD []) := by
  cases tr <;> rfl

def declHead : List Row → Bool
  | .decl _ _ :: _ => true
  | _ => false

/-- the entries the repaired walk makes for the row `r` that starts on line `ln` and has the rows `next` below it -/
def visit (r : Row) (next : List Row) (ln : Nat) (idx : Idx) : Idx :=
  match r with
  | .blank => idx
  | .comment ls => if declHead next then { idx with lead := put idx.lead (ln + ls.length - 1) ls } else idx
  | .decl h tr => afterDecl true idx ln h tr

theorem build_cons (r : Row) (rs : List Row) (ln : Nat) (idx : Idx) :
    build true (r :: rs) ln idx = build true rs (ln + r.height) (visit r rs ln idx) := by
  cases r with
  | blank => rfl
  | decl h tr => rfl
  | comment ls =>
    cases rs with
    | nil => rfl
    | cons r' rs' => cases r' <;> rfl

theorem Row.height_pos {r : Row} (hr : WFRow r) : 1 ≤ r.height := by
  cases r with
  | blank => exact Nat.le_refl 1
  | comment ls => exact List.length_pos_iff.mpr hr
  | decl h tr => exact hr

/-- a row writes only to the lines it occupies -/
theorem visit_lookup {r : Row} (hr : WFRow r) (next : List Row) (ln : Nat) (idx : Idx) {k : Nat}
    (hk : k < ln ∨ ln + r.height ≤ k) :
    (visit r next ln idx).lead.lookup k = idx.lead.lookup k ∧
    (visit r next ln idx).trail.lookup k = idx.trail.lookup k := by
  have hpos := Row.height_pos hr
  -- entries are made for the first and for the last line of the row only
  have hne : k ≠ ln ∧ k ≠ ln + r.height - 1 := by omega
  cases r with
  | blank => exact ⟨rfl, rfl⟩
  | comment ls =>
    rw [visit]
    split
    · exact ⟨lookup_put_ne hne.2, rfl⟩
    · exact ⟨rfl, rfl⟩
  | decl h tr =>
    rw [visit, afterDecl_lead, afterDecl_trail]
    exact ⟨rfl, lookup_put_ne hne.1⟩

def WF (rows : List Row) : Prop := ∀ r ∈ rows, WFRow r

/-- frame: rows laid out from line `ln` on never change what is recorded for earlier lines -/
theorem build_frame (rows : List Row) (hw : WF rows) :
    ∀ (ln : Nat) (idx : Idx) (k : Nat), k < ln →
      (build true rows ln idx).lead.lookup k = idx.lead.lookup k ∧
      (build true rows ln idx).trail.lookup k = idx.trail.lookup k := by
  induction rows with
  | nil => intro ln idx k _; exact ⟨rfl, rfl⟩
  | cons r rs ih =>
    intro ln idx k hk
    have h1 := ih (fun x hx => hw x (List.mem_cons_of_mem _ hx)) (ln + r.height) (visit r rs ln idx) k (by omega)
    have h2 := visit_lookup (hw r List.mem_cons_self) rs ln idx (Or.inl hk)
    rw [build_cons]
    exact ⟨h1.1.trans h2.1, h1.2.trans h2.2⟩

/-- nothing is recorded yet for lines from `ln` on -/
def Fresh (idx : Idx) (ln : Nat) : Prop :=
  ∀ k, ln ≤ k → idx.lead.lookup k = none ∧ idx.trail.lookup k = none

theorem fresh_visit {r : Row} (hr : WFRow r) {next : List Row} {ln : Nat} {idx : Idx} (hf : Fresh idx ln) :
    Fresh (visit r next ln idx) (ln + r.height) := by
  intro k hk
  have h := visit_lookup hr next ln idx (Or.inr hk)
  rw [h.1, h.2]
  exact hf k (by omega)

theorem visit_last {r : Row} (hr : WFRow r) {next : List Row} {ln : Nat} {idx : Idx} (hf : Fresh idx ln)
    (hd : declHead next = true) :
    (visit r next ln idx).lead.lookup (ln + r.height - 1) =
      match r with
      | .comment ls => some ls
      | _ => none := by
  have hnone := (hf (ln + r.height - 1) (by have := Row.height_pos hr; omega)).1
  cases r with
  | blank => exact hnone
  | comment ls => rw [visit, if_pos hd]; exact lookup_put_self hnone
  | decl h tr => rw [visit, afterDecl_lead]; exact hnone

/-- The invariant of the walk: nothing is recorded from the current line on, and when the next row is a
    declaration, the leading index holds for the line above exactly the group that ends there. -/
theorem doc_correct_aux (rows : List Row) (hw : WF rows) :
    ∀ (ln : Nat) (idx : Idx) (above : Option (List Str)), Fresh idx ln →
      (declHead rows = true → idx.lead.lookup (ln - 1) = above) →
      ∀ e ∈ truth rows ln above,
        docAt (build true rows ln idx) e.1 = e.2.1 ∧ commentAt (build true rows ln idx) e.1 = e.2.2 := by
  induction rows with
  | nil => intro _ _ _ _ _ e he; cases he
  | cons r rs ih =>
    intro ln idx above hfresh hlink e he
    have hw' : WF rs := fun x hx => hw x (List.mem_cons_of_mem _ hx)
    have hr : WFRow r := hw r List.mem_cons_self
    have ih' := ih hw' (ln + r.height) (visit r rs ln idx) _ (fresh_visit hr hfresh) (visit_last hr hfresh)
    rw [build_cons]
    cases r with
    | blank => exact ih' e he
    | comment ls => exact ih' e he
    | decl h tr =>
      rcases List.mem_cons.mp he with rfl | he
      · -- this declaration: the rows below leave the lines `ln - 1` and `ln` alone
        have hf := build_frame rs hw' (ln + h) (visit (.decl h tr) rs ln idx)
        have hh : 1 ≤ h := hr
        show docAt (build true rs (ln + h) _) ln = above.getD [] ∧
          commentAt (build true rs (ln + h) _) ln = (tr.map ([·])).getD []
        rw [docAt, commentAt, (hf (ln - 1) (by omega)).1, (hf ln (by omega)).2, visit, afterDecl_lead,
          afterDecl_trail, lookup_put_self (hfresh ln (Nat.le_refl _)).2, hlink rfl]
        exact ⟨rfl, rfl⟩
      · exact ih' e he

/-- C12 `doc_correct` / `comment_correct` / `no_trailing_as_doc` (repaired code): in every
    layout — any number of declarations, any heights, any mix of documented, undocumented,
    detached and trailing comments — every declaration gets exactly the comment group that ends
    on the line directly above it (nothing if there is none) and exactly its own trailing
    comment. -/
theorem doc_correct (rows : List Row) (hw : WF rows) :
    ∀ e ∈ truth rows 1 none,
      docAt (build true rows 1 ⟨[], []⟩) e.1 = e.2.1 ∧ commentAt (build true rows 1 ⟨[], []⟩) e.1 = e.2.2 :=
  doc_correct_aux rows hw 1 ⟨[], []⟩ none (fun _ _ => ⟨rfl, rfl⟩) (fun _ => rfl)

/-- C12, composed: what `Doc` / `Comment` return for every declaration of every layout — the tag
    extraction of (the `go:`-filtered lines of) the group that ends directly above it, and the
    filtered lines of its own trailing comment; never the previous line's trailing comment -/
theorem docOf_correct (rows : List Row) (hw : WF rows) :
    ∀ e ∈ truth rows 1 none,
      docOf (build true rows 1 ⟨[], []⟩) e.1 = Tags.extract Gengo.Gen.defaultMarkers (commentLines e.2.1) ∧
      commentOf (build true rows 1 ⟨[], []⟩) e.1 = commentLines e.2.2 := by
  intro e he
  obtain ⟨h1, h2⟩ := doc_correct rows hw e he
  simp [docOf, commentOf, h1, h2]

#print axioms doc_correct
#print axioms docOf_correct
end Gengo.Layout

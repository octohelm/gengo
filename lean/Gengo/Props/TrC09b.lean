import Gengo.Gen.Code.C09
import Gengo.Model.Snippet
/-!
The iterator bodies of `Snippets.Frag` and `Fragments` (pkg/gengo/snippet/snippet.go) as translated.  A snippet is what
the two functions see of it: the answer of `IsNil()` and the fragments its `Frag` yields (`Bool × List Str`); the
sequence a `Snippets` value ranges over is the parameter `items`.  `if !yield(x) { return }` is read as "emit x" (a
consumer that never stops early, which `SnippetWriter.Render` is).  The fragments handed on are those of the non-nil
parts, in order — whose concatenation is the model's `renderSeq` over leaves.
-/
namespace Gengo.TrC09b
open Gengo Gengo.Go Gengo.Template

theorem loop2_spec (items : List (Bool × List Str)) (fs out : List Str) :
    Code.snippetsFrag.loop2 items fs out = pure (.next (out ++ fs)) := by
  induction fs generalizing out with
  | nil => simp [Code.snippetsFrag.loop2]
  | cons v rest ih => simp [Code.snippetsFrag.loop2, ih]

theorem loop1_spec (items l : List (Bool × List Str)) (out : List Str) :
    Code.snippetsFrag.loop1 items l out = pure (.next (out ++ (l.filter (fun c => !c.1)).flatMap (·.2))) := by
  induction l generalizing out with
  | nil => simp [Code.snippetsFrag.loop1]
  | cons c rest ih => cases hc : c.1 <;> simp [Code.snippetsFrag.loop1, loop2_spec, ih, hc]

/-- `Snippets.Frag` hands on the fragments of its non-nil parts, in order -/
theorem snippetsFrag_eq (items : List (Bool × List Str)) :
    Code.snippetsFrag items = pure ((items.filter (fun c => !c.1)).flatMap (·.2)) := by
  simp [Code.snippetsFrag, loop1_spec]

theorem fragments_loop (fs out : List Str) : Code.fragments.loop1 fs out = pure (.next (out ++ fs)) := by
  induction fs generalizing out with
  | nil => simp [Code.fragments.loop1]
  | cons v rest ih => simp [Code.fragments.loop1, ih]

/-- `Fragments`: nothing for a nil snippet, its fragments otherwise -/
theorem fragments_eq (s : Bool × List Str) : Code.fragments s = pure (if s.1 then [] else s.2) := by
  cases hs : s.1 <;> simp [Code.fragments, fragments_loop, hs]

/-- the model's view of such a part: a leaf with the answer of `IsNil()` and the concatenation of its fragments -/
def leafOf (c : Bool × List Str) : Snip := .leaf c.1 (some c.2.flatten)

/-- C09, of the translated code: the text a consumer of `Snippets.Frag` receives is the model's `renderSeq` -/
theorem code_seq_render (f5 f6 : Bool) (items : List (Bool × List Str)) :
    (Code.snippetsFrag items).toOption.map List.flatten = renderSeq f5 f6 (items.map leafOf) := by
  rw [snippetsFrag_eq]
  show some _ = _
  induction items with
  | nil => simp [renderSeq]
  | cons c rest ih => cases hc : c.1 <;> simp [renderSeq, leafOf, Snip.isNil, renderS, ← ih, hc]

example : Code.snippetsFrag [(false, ["a".toList, "b".toList]), (true, ["x".toList]), (false, ["c".toList])]
    = .ok ["a".toList, "b".toList, "c".toList] := by rfl

#print axioms snippetsFrag_eq
#print axioms fragments_eq
#print axioms code_seq_render
end Gengo.TrC09b
